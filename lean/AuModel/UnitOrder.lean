/-
  AuModel.UnitOrder — the library's own canonical order of unit types,
  `InOrderFor<UnitProduct, A, B>` (unit_of_measure.hh:1046-1053), transcribed key by key:

    LexicographicTotalOrdering<A, B, OrderByUnitAvoidance, OrderByDim, OrderByMag,
                               OrderByScaleFactor, OrderByOrigin, OrderAsUnitProduct>

  The algebra theorems (C02, C07, C10, C14) hold for ANY strict total order, and the driver runs the
  unit algebra with a text-key order; this file models the order the library actually uses, so that the
  order itself can be compared with the headers pair by pair (p_c02's order table) and reasoned about
  (AuProofs.Lemmas.UnitOrderLib).
-/
import AuModel.Unit

namespace Au
open Pack

/-- What the order needs to know about named units beyond `Env`: the position of the unit's `origin()`
(in base units of its dimension; 0 when it has none) and its `UnitAvoidance` (0 for a named struct, 2 for a
bare `UnitImpl<Dim>`). -/
structure OrdEnv extends Env where
  origin : Nat → Rat
  avoid : Nat → Nat

/-- A one-element pack: what a stand-alone `Pow<B,N>` / `RatioPow<B,N,D>` is in the model. -/
def UL.isSingle : UL → Bool
  | .cons _ _ .nil => true
  | _ => false

def UL.headExp : UL → Rat
  | .cons _ q _ => q
  | .nil => 0

/-- `detail::UnitAvoidance<U>::value` (unit_of_measure.hh:1009-1035). -/
def U.avoidance (oe : OrdEnv) : U → Nat
  | .named n => oe.avoid n
  | .scaled _ _ => 3
  | .prod ps => if ps.isSingle then (if ps.headExp.den = 1 then 4 else 5) else 1
  | .common _ => 6
  | .commonPoint _ => 7

/-- A genuine `UnitProduct<...>` specialisation (not a stand-alone power). -/
def U.isUnitProduct : U → Bool
  | .prod ps => !ps.isSingle
  | _ => false

mutual
/-- `detail::OriginOf<U>::value()` as a position: `ScaledUnit<U, M>` derives from `U` and inherits its
`origin()` unchanged; products and common units have none; `CommonPointUnit` has the least origin. -/
def U.originOf (oe : OrdEnv) : U → Rat
  | .named n => oe.origin n
  | .scaled u _ => U.originOf oe u
  | .prod _ => 0
  | .common _ => 0
  | .commonPoint us => UL.minOrigin oe us
def UL.minOrigin (oe : OrdEnv) : UL → Rat
  | .nil => 0
  | .cons u _ .nil => U.originOf oe u
  | .cons u _ t => min (U.originOf oe u) (UL.minOrigin oe t)
end

/-- `detail::OrderByScaleFactor<A, B>`: false unless both are `ScaledUnit` specialisations. -/
def U.scaleFactorLt : U → U → Bool
  | .scaled _ m1, .scaled _ m2 => packLt MagBase.lt m1 m2
  | _, _ => false

mutual
/-- `InOrderFor<UnitProduct, A, B>`. -/
def U.libLt (oe : OrdEnv) (a b : U) : Bool :=
  if a.avoidance oe < b.avoidance oe then true
  else if b.avoidance oe < a.avoidance oe then false
  else if packLt dimLt (a.dimOf oe.toEnv) (b.dimOf oe.toEnv) then true
  else if packLt dimLt (b.dimOf oe.toEnv) (a.dimOf oe.toEnv) then false
  else if packLt MagBase.lt (a.magOf oe.toEnv) (b.magOf oe.toEnv) then true
  else if packLt MagBase.lt (b.magOf oe.toEnv) (a.magOf oe.toEnv) then false
  else if U.scaleFactorLt a b then true
  else if U.scaleFactorLt b a then false
  -- OrderByOrigin<A, B>: OriginDisplacement<A, B> = origin(B) − origin(A) is negative
  else if b.originOf oe < a.originOf oe then true
  else if a.originOf oe < b.originOf oe then false
  else match a, b with
    | .prod p1, .prod p2 =>
      if (U.prod p1).isUnitProduct && (U.prod p2).isUnitProduct then UL.libLt oe p1 p2 else false
    | _, _ => false
termination_by sizeOf a + sizeOf b
decreasing_by all_goals (simp_wf; omega)
/-- `InStandardPackOrder<UnitProduct<...>, UnitProduct<...>>` (packs.hh:346-362): lead bases by the unit
order, then lead exponents, then the tails. -/
def UL.libLt (oe : OrdEnv) (p1 p2 : UL) : Bool :=
  match p1, p2 with
  | .nil, .nil => false
  | .nil, .cons _ _ _ => true
  | .cons _ _ _, .nil => false
  | .cons u1 q1 t1, .cons u2 q2 t2 =>
    if U.libLt oe u1 u2 then true
    else if U.libLt oe u2 u1 then false
    else if q1 - q2 < 0 then true
    else if q2 - q1 < 0 then false
    else UL.libLt oe t1 t2
termination_by sizeOf p1 + sizeOf p2
decreasing_by all_goals (simp_wf; omega)
end

end Au
