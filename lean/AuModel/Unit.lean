/-
  AuModel.Unit — unit *types* as terms (`unit_of_measure.hh`): named units, `ScaledUnit`,
  `UnitProduct` (with `Pow`/`RatioPow` elements), `CommonUnit`, `CommonPointUnit`; their `Dim` and
  `Mag`; the type-level operations `UnitProductT`, `UnitPowerT`, `UnitQuotientT`,
  `ComputeScaledUnit`; and unit *expressions* as users write them.

  The canonical order of units inside a product (`InOrderFor<UnitProduct, A, B>`) is a parameter
  `lt`: every theorem about products holds for any strict total order, and that the library's order
  is one on the units that occur is a separate, per-run obligation (AuProofs.Gen.C02).
-/
import AuModel.Mag

namespace Au

mutual
/-- A unit type.  `prod` holds the (base, exponent) list of a `UnitProduct<...>`; a stand-alone
`Pow<B,N>` / `RatioPow<B,N,D>` is the one-element product `[(B, N/D)]` (what `UnpackIfSoloT` leaves). -/
inductive U where
  | named (id : Nat)
  | scaled (u : U) (m : Mag)
  | prod (ps : UL)
  | common (us : UL)
  | commonPoint (us : UL)
inductive UL where
  | nil
  | cons (u : U) (q : Rat) (t : UL)
end
deriving instance DecidableEq for U, UL

def UL.toList : UL → List (U × Rat)
  | .nil => []
  | .cons u q t => (u, q) :: t.toList

def UL.ofList : List (U × Rat) → UL
  | [] => .nil
  | (u, q) :: t => .cons u q (UL.ofList t)

/-- What the model needs to know about the named units (regenerated from the headers). -/
structure Env where
  dim : Nat → Dim
  mag : Nat → Mag

mutual
/-- `detail::DimT<U>`. -/
def U.dimOf (env : Env) : U → Dim
  | .named n => env.dim n
  | .scaled u _ => U.dimOf env u
  | .prod ps => UL.dimOf env ps
  | .common us => UL.dimHead env us
  | .commonPoint us => UL.dimHead env us
/-- `DimProductT<DimT<UnitPows>...>` (right fold, as the N-ary `PackProduct` recurses). -/
def UL.dimOf (env : Env) : UL → Dim
  | .nil => []
  | .cons u q t => Dim.mul ((U.dimOf env u).pow q) (UL.dimOf env t)
/-- `CommonDimensionT` of same-dimension units: the dimension of any member. -/
def UL.dimHead (env : Env) : UL → Dim
  | .nil => []
  | .cons u _ _ => U.dimOf env u
end

mutual
/-- `detail::MagT<U>` (for `commonPoint` the origin-displacement part is added in AuModel.CommonUnit). -/
def U.magOf (env : Env) : U → Mag
  | .named n => env.mag n
  | .scaled u m => Mag.mul (U.magOf env u) m
  | .prod ps => UL.magOf env ps
  | .common us => Mag.commonAll (UL.mags env us)
  | .commonPoint us => Mag.commonAll (UL.mags env us)
def UL.magOf (env : Env) : UL → Mag
  | .nil => []
  | .cons u q t => Mag.mul ((U.magOf env u).pow q) (UL.magOf env t)
def UL.mags (env : Env) : UL → List Mag
  | .nil => []
  | .cons u _ t => U.magOf env u :: UL.mags env t
end

/-- `AsPackT<UnitProduct, U>`. -/
def U.asPack : U → Pack U
  | .prod ps => ps.toList
  | u => [(u, 1)]

/-- `UnpackIfSoloT<UnitProduct, ·>` after `SimplifyBasePowers`: a one-element product with
exponent 1 is the element itself. -/
def U.ofPack (p : Pack U) : U :=
  match p with
  | [(u, q)] => if q = 1 then u else .prod (UL.ofList p)
  | _ => .prod (UL.ofList p)

/-- `UnitProductT<U1, U2>`. -/
def U.mul (lt : U → U → Bool) (a b : U) : U := U.ofPack (Pack.mul lt a.asPack b.asPack)

/-- `UnitPowerT<U, N, D>`. -/
def U.pow (a : U) (q : Rat) : U := U.ofPack (a.asPack.pow q)

/-- `UnitQuotientT<U1, U2>`. -/
def U.div (lt : U → U → Bool) (a b : U) : U := U.mul lt a (b.pow (-1))

/-- `ComputeScaledUnit<U, M>`: nested scalings collapse, scaling by ONE is the identity. -/
def U.scale (u : U) (m : Mag) : U :=
  match u with
  | .scaled v old =>
    let m' := Mag.mul old m
    if m' = [] then v else .scaled v m'
  | _ => if m = [] then u else .scaled u m

/-- Unit expressions as users write them (`*`, `/`, `pow<N>`, `root<N>`, scaling by a magnitude;
prefixes are scalings by `10^n` / `2^(10n)` of a named unit and are named units of their own). -/
inductive UExpr where
  | atom (u : U)
  | mul (a b : UExpr)
  | div (a b : UExpr)
  | pow (a : UExpr) (q : Rat)
  | scale (a : UExpr) (m : Mag)
deriving DecidableEq

def UExpr.eval (lt : U → U → Bool) : UExpr → U
  | .atom u => u
  | .mul a b => U.mul lt (a.eval lt) (b.eval lt)
  | .div a b => U.div lt (a.eval lt) (b.eval lt)
  | .pow a q => (a.eval lt).pow q
  | .scale a m => (a.eval lt).scale m

/-- `AreUnitsQuantityEquivalent`: same `Dim` type and same `Mag` type. -/
def U.qEquiv (env : Env) (a b : U) : Bool :=
  decide (a.dimOf env = b.dimOf env) && decide (a.magOf env = b.magOf env)

end Au

namespace Au

def U.isProd : U → Bool
  | .prod _ => true
  | _ => false

/-- Well-formed unit types (what the library's own operations produce): a `UnitProduct` holds a
valid pack whose bases are well-formed units that are not themselves products. -/
inductive HGood (lt : U → U → Bool) : U → Prop where
  | named (n : Nat) : HGood lt (.named n)
  | scaled (v : U) (m : Mag) : HGood lt v → Pack.Valid MagBase.lt m → HGood lt (.scaled v m)
  | common (us : UL) : (∀ y ∈ us.toList, HGood lt y.1) → HGood lt (.common us)
  | commonPoint (us : UL) : (∀ y ∈ us.toList, HGood lt y.1) → HGood lt (.commonPoint us)
  | prod (ps : UL) : Pack.Valid lt ps.toList → (∀ y ∈ ps.toList, y.1.isProd = false) →
      (∀ y ∈ ps.toList, HGood lt y.1) → HGood lt (.prod ps)

/-- Named units have valid dimension and magnitude packs (checked on the regenerated unit table). -/
structure Env.WF (env : Env) : Prop where
  dim : ∀ n, Pack.Valid dimLt (env.dim n)
  mag : ∀ n, Pack.Valid MagBase.lt (env.mag n)

/-- Exact algebraic semantics of a unit expression: exponent of each base dimension. -/
def UExpr.dimSem (env : Env) : UExpr → Int → Rat
  | .atom u, d => Pack.den (u.dimOf env) d
  | .mul a b, d => a.dimSem env d + b.dimSem env d
  | .div a b, d => a.dimSem env d + b.dimSem env d * (-1)
  | .pow a q, d => a.dimSem env d * q
  | .scale a _, d => a.dimSem env d

/-- Exact algebraic semantics: exponent of each prime (and of π) in the magnitude. -/
def UExpr.magSem (env : Env) : UExpr → MagBase → Rat
  | .atom u, x => Pack.den (u.magOf env) x
  | .mul a b, x => a.magSem env x + b.magSem env x
  | .div a b, x => a.magSem env x + b.magSem env x * (-1)
  | .pow a q, x => a.magSem env x * q
  | .scale a m, x => a.magSem env x + Pack.den m x

def UExpr.atoms : UExpr → List U
  | .atom u => [u]
  | .mul a b => a.atoms ++ b.atoms
  | .div a b => a.atoms ++ b.atoms
  | .pow a _ => a.atoms
  | .scale a _ => a.atoms

def UExpr.scales : UExpr → List Mag
  | .atom _ => []
  | .mul a b => a.scales ++ b.scales
  | .div a b => a.scales ++ b.scales
  | .pow a _ => a.scales
  | .scale a m => m :: a.scales

end Au
