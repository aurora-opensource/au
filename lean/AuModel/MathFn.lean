/-
  AuModel.MathFn — `au/math.hh` (with the parts of `quantity.hh`, `constant.hh`, `magnitude.hh`,
  `apply_magnitude.hh` it runs through), transcribed clause by clause for property C15.

  * `convert`            — `Quantity<U,R>::in<NewRep>(unit)` (quantity.hh:143-180)
  * `getValueF/I`        — `get_value<T>(Magnitude)` for floating / integral `T` (magnitude.hh:318-569)
  * `roundIn`, `roundInAs` — `round_in / floor_in / ceil_in` in both formats (math.hh:82-118, 387-592)
  * `inRadians`          — `detail::in_radians` (math.hh:46-62)
  * `inverseIn`, `inverseImplicitCompiles`, `inverseInImplicit` — math.hh:230-299
  * `minQ`, `maxQ`, `clampQ`, `absQ`, `twoArgRep` — the wrappers of math.hh:120-219, 315-385 and the
    hidden friends of quantity.hh:404-408

  A unit pair enters only through the magnitude of its ratio, given as the library's pack: a list
  of (base, integer exponent) in the library's order (primes ascending, `Pi` by its value between
  3 and 5).  Fractional exponents (roots) are outside this model.  Everything is in namespace
  `Au.C15`; core Lean only.
-/
import AuModel.Arith
import AuModel.ApplyMag
import AuModel.MathFlt

namespace Au.C15
open Au

/-! ### Arithmetic types and values -/

inductive ArithTy where
  | int (t : IntTy)
  | flt (f : FltTy)
deriving DecidableEq, Repr

namespace ArithTy
/-- `std::common_type_t<A, B>` on arithmetic types. -/
def common : ArithTy → ArithTy → ArithTy
  | int a, int b => int (IntTy.common a b)
  | int _, flt f => flt f
  | flt f, int _ => flt f
  | flt a, flt b => flt (a.wider b)

def isFloat : ArithTy → Bool
  | flt _ => true
  | int _ => false

def name : ArithTy → String
  | int t => t.name
  | flt f => f.name

def ofName? (s : String) : Option ArithTy :=
  match IntTy.ofName? s with
  | some t => some (int t)
  | none => (FltTy.ofName? s).map flt
end ArithTy

/-- A value of some arithmetic type. -/
inductive Val where
  | i (n : Int)
  | f (v : FVal)
deriving DecidableEq, Repr

/-- Result of a C++ expression: a value, undefined behaviour, or "the program is ill-formed"
(a `static_assert` fires). -/
inductive Res (α : Type) where
  | ok (a : α)
  | ub (why : String)
  | nocompile (why : String)
deriving Repr, DecidableEq

def Res.bind {α β : Type} (r : Res α) (g : α → Res β) : Res β :=
  match r with
  | .ok a => g a
  | .ub w => .ub w
  | .nocompile w => .nocompile w

instance : Monad Res where
  pure := .ok
  bind := Res.bind

/-- `static_cast<To>(v)`.  Integer→integer is modular; integer→float and float→float round to
nearest; float→integer truncates and is undefined when the truncated value is not representable. -/
def staticCast (v : Val) (to : ArithTy) : Res Val :=
  match v, to with
  | .i n, .int t => .ok (.i (t.wrap n))
  | .i n, .flt f => .ok (.f (rne f (n : Rat)))
  | .f x, .flt f => .ok (.f (x.toFlt f))
  | .f (.fin q), .int t =>
    let z := Int.tdiv q.num (q.den : Int)
    if t.inRange z then .ok (.i z) else .ub "float-to-integer conversion out of range"
  | .f _, .int _ => .ub "float-to-integer conversion of nan/inf"

/-! ### Magnitudes -/

inductive MBase where
  | prime (p : Nat)
  | pi
deriving DecidableEq, Repr

/-- A magnitude with integer exponents, in pack order. -/
abbrev Mag := List (MBase × Int)

namespace Mag
def inv (m : Mag) : Mag := m.map (fun be => (be.1, -be.2))

/-- `IsInteger<M>`: `M` equals its integer part — only primes, only positive powers. -/
def isInteger (m : Mag) : Bool := m.all (fun be => be.1 != .pi && decide (be.2 ≥ 0))

/-- `IsRational<M>`: no `Pi`. -/
def isRational (m : Mag) : Bool := m.all (fun be => be.1 != .pi)

/-- Product of the positive prime powers. -/
def num : Mag → Nat
  | [] => 1
  | (.prime p, e) :: t => (if e > 0 then p ^ e.toNat else 1) * num t
  | (.pi, _) :: t => num t

/-- Product of the negative prime powers (as a positive integer). -/
def den (m : Mag) : Nat := num m.inv

/-- Well-formed pack as the check produces them: primes ≥ 2, strictly ascending (with `Pi`
between 3 and 5), no zero exponent. -/
def baseKey : MBase → Nat
  | .prime p => 2 * p
  | .pi => 7

def wf : Mag → Bool
  | [] => true
  | [(b, e)] => decide (e ≠ 0) && (match b with | .prime p => decide (2 ≤ p) | .pi => true)
  | (b, e) :: (b', e') :: t =>
    decide (e ≠ 0) && (match b with | .prime p => decide (2 ≤ p) | .pi => true) &&
      decide (baseKey b < baseKey b') && wf ((b', e') :: t)
end Mag

/-- `categorize_magnitude` (apply_magnitude.hh:31-43). -/
inductive MCat where
  | intMul | intDiv | rational | irrational
deriving DecidableEq, Repr

def categorizeMag (m : Mag) : MCat :=
  if m.isInteger then .intMul
  else if m.inv.isInteger then .intDiv
  else if m.isRational then .rational
  else .irrational

/-! ### `get_value<T>(Magnitude)` -/

/-- `std::numeric_limits<long double>::max()`. -/
def ldMax : FVal := .fin FltTy.f80.maxFinite

/-- `Pi::value()`: the literal of magnitude.hh:92 rounded to `long double`. -/
def piLD : FVal := rne .f80 ((314159265358979323846264338327950288419716939 : Rat) / (10 ^ 44 : Nat))

def baseLD : MBase → FVal
  | .prime p => rne .f80 (p : Rat)      -- static_cast<long double>(uintmax_t)
  | .pi => piLD

/-- `checked_int_pow<long double>(base, exp)` (magnitude.hh:317-338), the loop unrolled with fuel
(64 iterations suffice for a 64-bit exponent). `none` = `ERR_CANNOT_FIT`. -/
def cipLoop : Nat → FVal → Nat → FVal → Option FVal
  | 0, _, _, r => some r
  | fuel + 1, base, exp, r =>
    if exp = 0 then some r
    else
      let step : Option FVal :=
        if exp % 2 = 1 then
          (if FVal.gt base (FVal.div .f80 ldMax r) then none else some (FVal.mul .f80 r base))
        else some r
      match step with
      | none => none
      | some r' =>
        let exp' := exp / 2
        if FVal.gt base (FVal.div .f80 ldMax base) then (if exp' = 0 then some r' else none)
        else cipLoop fuel (FVal.mul .f80 base base) exp' r'

def checkedIntPowLD (base : FVal) (exp : Nat) : Option FVal := cipLoop 64 base exp (.fin 1)

/-- `base_power_value<T, N, 1>(base)` for floating `T` (`Widen<T>` = `long double`). -/
def basePowerLD (b : MBase) (e : Int) : Option FVal :=
  if e < 0 then (checkedIntPowLD (baseLD b) (-e).toNat).map (fun v => FVal.div .f80 (.fin 1) v)
  else checkedIntPowLD (baseLD b) e.toNat

/-- The multiplication loop of `product` (magnitude.hh:460-467). -/
def productLoop : List FVal → FVal → Option FVal
  | [], r => some r
  | x :: t, r =>
    if FVal.gt x (.fin 1) && FVal.gt r (FVal.div .f80 ldMax x) then none
    else productLoop t (FVal.mul .f80 r x)

def allSome {α : Type} : List (Option α) → Option (List α)
  | [] => some []
  | none :: _ => none
  | some a :: t => (allSome t).map (a :: ·)

/-- `get_value_result<T>(M)` for floating `T`; `none` = any error outcome. -/
def getValueF (f : FltTy) (m : Mag) : Option FVal :=
  match m with
  | [] => some (.fin 1)
  | _ =>
    match allSome (m.map (fun be => basePowerLD be.1 be.2)) with
    | none => none
    | some vals =>
      match productLoop vals (.fin 1) with
      | none => none
      | some w =>
        -- safe_to_cast_to<T>: lowest(T) ≤ w ≤ max(T)
        if FVal.le (.fin (-f.maxFinite)) w && FVal.le w (.fin f.maxFinite) then
          -- a magnitude is strictly positive: a value that underflows to zero in `T` cannot be represented
          -- (magnitude.hh:557-560, the fix of finding F6)
          if w.toFlt f = .fin 0 then none else some (w.toFlt f)
        else none

/-- `get_value_result<T>(M)` for integral `T`: the magnitude must be an integer that fits.
(Specification-level; exact for prime bases below 2^63 — beyond that see finding F1 / C11.) -/
def getValueI (t : IntTy) (m : Mag) : Option Int :=
  if m.isInteger then gvInt t m.num else none

/-! ### `apply_magnitude` and `Quantity::in<NewRep>` -/

/-- What `ApplyMagnitudeImpl<Mag, Category, T, false>::operator()` does to its argument for a
floating `T`: multiply by, or divide by, a constant obtained from `get_value<T>` at compile time. -/
inductive FOp where
  | mul (c : FVal)
  | div (c : FVal)
deriving Repr, DecidableEq

def FOp.apply (f : FltTy) : FOp → FVal → FVal
  | .mul c, x => FVal.mul f x c
  | .div c, x => FVal.div f x c

/-- The operation chosen for magnitude `m` in floating type `f` (`nocompile`: the `static_assert`s
of `get_value` fire). -/
def magOp (f : FltTy) (m : Mag) : Res FOp :=
  match categorizeMag m with
  | .intMul =>
    match getValueF f m with
    | some c => .ok (.mul c)
    | none => .nocompile "get_value"
  | .intDiv =>
    match getValueF f m.inv with
    | some c => .ok (.div c)
    | none => .nocompile "get_value"
  | .rational | .irrational =>
    match getValueF f m with
    | some c => .ok (.mul c)
    | none => .nocompile "get_value"

def applyMagF (f : FltTy) (m : Mag) (x : FVal) : Res FVal :=
  (magOp f m).bind fun op => .ok (op.apply f x)

def applyMagI (t : IntTy) (m : Mag) (x : Int) : Res Int :=
  match categorizeMag m with
  | .irrational => .nocompile "Cannot apply irrational magnitude to integer type"
  | _ =>
    if compiles t m.num m.den then
      match (applyMag t m.num m.den x).val with
      | .ok v => .ok v
      | .ub w => .ub w
    else .nocompile "get_value"

def applyMagnitude (c : ArithTy) (m : Mag) (v : Val) : Res Val :=
  match c, v with
  | .flt f, .f x => (applyMagF f m x).bind (fun y => .ok (.f y))
  | .int t, .i x => (applyMagI t m x).bind (fun y => .ok (.i y))
  | _, _ => .nocompile "ill-typed"

/-- `Quantity<U,R>::in<NewRep>(u)` where `m` is the magnitude of `U / u`
(units are quantity-equivalent exactly when `m` is empty). -/
def convert (R NewRep : ArithTy) (m : Mag) (x : Val) : Res Val :=
  if m.isEmpty && R = NewRep then .ok x
  else
    let C := R.common NewRep
    (staticCast x C).bind fun v => (applyMagnitude C m v).bind fun w => staticCast w NewRep

/-- The compile-time part of `Quantity::in<NewRep>`: for a floating common type, the operation
`apply_magnitude` will perform.  (`Au.C15_plan_sound` in `AuProofs.C15` proves that running a plan
is `convert`; the driver uses plans so that a batch of values shares one evaluation of
`get_value`.) -/
structure ConvPlan where
  R : ArithTy
  NewRep : ArithTy
  m : Mag
  op : Res FOp

def planConvert (R NewRep : ArithTy) (m : Mag) : ConvPlan :=
  ⟨R, NewRep, m, match R.common NewRep with
    | .flt f => magOp f m
    | .int _ => .nocompile "integral common type"⟩

def ConvPlan.run (p : ConvPlan) (x : Val) : Res Val :=
  if p.m.isEmpty && p.R = p.NewRep then .ok x
  else
    let C := p.R.common p.NewRep
    (staticCast x C).bind fun v =>
      (match C, v with
        | .flt f, .f y => p.op.bind fun op => Res.ok (Val.f (op.apply f y))
        | _, _ => applyMagnitude C p.m v).bind fun w => staticCast w p.NewRep

/-! ### Rounding functions (math.hh:82-118, 387-592) -/

/-- `RoundingRepT`: `decltype(std::round(R{}))`. -/
def roundingRep : ArithTy → FltTy
  | .int _ => .f64
  | .flt f => f

inductive RFn where
  | round | floor | ceil
deriving DecidableEq, Repr

def RFn.apply : RFn → FVal → FVal
  | .round => FVal.round
  | .floor => FVal.floor
  | .ceil => FVal.ceil

/-- The value handed to `std::round/floor/ceil`: `q.in<RoundingRep>(rounding_units)`. -/
def roundArg (R : ArithTy) (m : Mag) (x : Val) : Res FVal :=
  (convert R (.flt (roundingRep R)) m x).bind fun v =>
    match v with
    | .f y => .ok y
    | .i _ => .nocompile "ill-typed"

/-- `round_in / floor_in / ceil_in (rounding_units, q)` — unit-only format. -/
def roundIn (fn : RFn) (R : ArithTy) (m : Mag) (x : Val) : Res FVal :=
  (roundArg R m x).bind fun y => .ok (fn.apply y)

/-- Explicit-rep format: `static_cast<OutputRep>(…)`. -/
def roundInAs (fn : RFn) (R Out : ArithTy) (m : Mag) (x : Val) : Res Val :=
  (roundIn fn R m x).bind fun r => staticCast (.f r) Out

/-- `detail::in_radians(q)`; `m` is the magnitude of `U / Radians`. -/
def inRadians (R : ArithTy) (m : Mag) (x : Val) : Res Val :=
  convert R (.flt (roundingRep R)) m x

/-- The type `std::fmod / remainder / hypot` compute in for argument types `R1`, `R2`. -/
def twoArgRep (R1 R2 : ArithTy) : FltTy :=
  match R1, R2 with
  | .flt .f80, _ => .f80
  | _, .flt .f80 => .f80
  | .flt .f32, .flt .f32 => .f32
  | _, _ => .f64

/-! ### Inverses (math.hh:230-299) -/

/-- The literal in `constexpr R threshold = 1'000'000;` (and in the rep guard above it). -/
def inverseThresholdLiteral : Nat := 1000000

/-- `UNITY.in<Rep>(associated_unit(target_units) * U{})`, `K` the magnitude of
`1 / (target · U)`: the `static_assert(can_store_value_in<Rep>(…))` of constant.hh:74, then
`Quantity<Unitless, Rep>{1}.in<Rep>(…)`. -/
def unityIn (Rep : ArithTy) (K : Mag) : Res Val :=
  let representable : Bool :=
    match Rep with
    | .int t => (getValueI t K).isSome
    | .flt f => (getValueF f K).isSome
  if !representable then .nocompile "Cannot represent constant in this unit/rep"
  else
    match Rep with
    | .int _ => convert Rep Rep K (.i 1)
    | .flt _ => convert Rep Rep K (.f (.fin 1))

/-- `a / b` with `a : Rep`, `b : R`, `Rep = common_type<…, R>`: usual arithmetic conversions. -/
def divide (Rep R : ArithTy) (a b : Val) : Res Val :=
  match Rep, R, a, b with
  | .int ta, .int tb, .i x, .i y =>
    let p := IntTy.uac ta tb
    match (divIn p (p.wrap x) (p.wrap y)).val with
    | .ok v => .ok (.i v)
    | .ub w => .ub w
  | .flt f, _, .f x, y =>
    (staticCast y (.flt f)).bind fun y' =>
      match y' with
      | .f yf => .ok (.f (FVal.div f x yf))
      | .i _ => .nocompile "ill-typed"
  | _, _, _, _ => .nocompile "ill-typed"

/-- The type `Rep / R` is evaluated in. -/
def divideTy (Rep R : ArithTy) : ArithTy :=
  match Rep, R with
  | .int ta, .int tb => .int (IntTy.uac ta tb)
  | .flt f, _ => .flt f
  | .int t, .flt _ => .int t

/-- Explicit-rep `inverse_in<TargetRep>(target_units, q)`. -/
def inverseIn (TR R : ArithTy) (K : Mag) (x : Val) : Res Val :=
  let Rep := TR.common R
  (unityIn Rep K).bind fun k =>
    -- the quotient has the type of the division; `static_cast<TargetRep>` converts it
    (divide Rep R k x).bind fun q => staticCast q TR

/-- `static_assert(is_floating_point<R> || numeric_limits<R>::max() >= 1'000'000, …);
constexpr R threshold = 1'000'000;` (math.hh:268-272): for an integral `R` that cannot hold the
literal the assertion fires and the program is ill-formed (`none`); for floating `R` the literal
is exactly representable. -/
def thresholdOf (R : ArithTy) : Option Val :=
  match R with
  | .int t => if t.inRange (inverseThresholdLiteral : Int) then some (.i (inverseThresholdLiteral : Int)) else none
  | .flt f => some (.f (rne f (inverseThresholdLiteral : Rat)))

def valGe : Val → Val → Bool
  | .i a, .i b => decide (a ≥ b)
  | .f a, .f b => FVal.le b a
  | _, _ => false

/-- Whether implicit-rep `inverse_in(target_units, q)` compiles: the threshold declaration must be
well-formed, `UNITY.in<R>(…)` must be well-formed (it is an operand of the asserted expression for
every `R`), and `UNITY.in<R>(…) >= threshold || is_floating_point<R>`. -/
def inverseImplicitCompiles (R : ArithTy) (K : Mag) : Bool :=
  match thresholdOf R with
  | none => false
  | some thr =>
    match unityIn R K with
    | .ok k => valGe k thr || R.isFloat
    | _ => false

/-- Implicit-rep `inverse_in(target_units, q)` (and the value of `inverse_as`). -/
def inverseInImplicit (R : ArithTy) (K : Mag) (x : Val) : Res Val :=
  if inverseImplicitCompiles R K then inverseIn R R K x
  else .nocompile "Dangerous inversion risking truncation to 0"

/-! ### min / max / clamp / abs -/

def valLt : Val → Val → Bool
  | .i a, .i b => decide (a < b)
  | .f a, .f b => FVal.lt a b
  | _, _ => false

/-- `q.as<Rr>(unit)` (also the implicit constructor `ResultT{q}`): cast to the common type, apply
the magnitude `m` of `U / unit` there, cast to `Rr`.  `as` always runs `apply_magnitude`, also for
the empty magnitude. -/
def construct (R Rr : ArithTy) (m : Mag) (x : Val) : Res Val :=
  (staticCast x (R.common Rr)).bind fun v =>
    (applyMagnitude (R.common Rr) m v).bind fun w => staticCast w Rr

/-- `detail::cast_to_common_type<C>(q)`: `rep_cast<C::Rep>(q).as(C::unit)`; `m` = magnitude of
`U / C::Unit`.  (The conversion-policy `static_assert` of `as(unit)` is not modelled here: it is
property C06; the check only generates instances that satisfy it.) -/
def toCommon (R C : ArithTy) (m : Mag) (x : Val) : Res Val :=
  (construct R C [] x).bind fun v => construct C C m v

/-- `max(q1, q2)`.  `same` = the two `Quantity` types are identical (then the hidden friend of
quantity.hh:405 is chosen: `b < a ? a : b`), otherwise math.hh:328-331 → `std::max(a, b)` on the
common type: `a < b ? b : a`. -/
def maxQ (same : Bool) (R1 R2 : ArithTy) (m1 m2 : Mag) (x1 x2 : Val) : Res Val :=
  if same then .ok (if valLt x2 x1 then x1 else x2)
  else
    let C := R1.common R2
    (toCommon R1 C m1 x1).bind fun a => (toCommon R2 C m2 x2).bind fun b =>
      .ok (if valLt a b then b else a)

/-- `min(q1, q2)`: hidden friend `b < a ? b : a`; otherwise `std::min(a, b)` = `b < a ? b : a`. -/
def minQ (same : Bool) (R1 R2 : ArithTy) (m1 m2 : Mag) (x1 x2 : Val) : Res Val :=
  if same then .ok (if valLt x2 x1 then x2 else x1)
  else
    let C := R1.common R2
    (toCommon R1 C m1 x1).bind fun a => (toCommon R2 C m2 x2).bind fun b =>
      .ok (if valLt b a then b else a)

/-- `q1 < q2` for two quantity types (`same`: hidden friend on the stored values). -/
def lessQ (same : Bool) (R1 R2 : ArithTy) (m1 m2 : Mag) (x1 x2 : Val) : Res Bool :=
  if same then .ok (valLt x1 x2)
  else
    let C := R1.common R2
    (toCommon R1 C m1 x1).bind fun a => (toCommon R2 C m2 x2).bind fun b => .ok (valLt a b)

/-- Magnitudes `clamp` needs: each operand to the common unit of each compared pair and to the
result unit. -/
structure ClampMags where
  vToVLo : Mag
  loToVLo : Mag
  hiToHiV : Mag
  vToHiV : Mag
  vToRes : Mag
  loToRes : Mag
  hiToRes : Mag

/-- `clamp(v, lo, hi)` (math.hh:163-170):
`(v < lo) ? ResultT{lo} : (hi < v) ? ResultT{hi} : ResultT{v}`.
`sameVLo`, `sameHiV`: the compared types are identical. -/
def clampQ (sameVLo sameHiV : Bool) (RV RLo RHi : ArithTy) (ms : ClampMags) (v lo hi : Val) :
    Res Val :=
  let Rr := (RV.common RLo).common RHi
  (lessQ sameVLo RV RLo ms.vToVLo ms.loToVLo v lo).bind fun c1 =>
    if c1 then construct RLo Rr ms.loToRes lo
    else
      (lessQ sameHiV RHi RV ms.hiToHiV ms.vToHiV hi v).bind fun c2 =>
        if c2 then construct RHi Rr ms.hiToRes hi else construct RV Rr ms.vToRes v

/-- `abs(q)`: `make_quantity<U>(std::abs(q.in(U{})))` — for integral reps `std::abs` works (and
returns) in the promoted type; `abs(lowest)` overflows there only when `R` is not promoted. -/
def absQ (R : ArithTy) (x : Val) : Res (ArithTy × Val) :=
  match R, x with
  | .int t, .i n =>
    let p := t.promote
    if n = p.lo then .ub "abs of the most negative value" else .ok (.int p, .i (if n < 0 then -n else n))
  | .flt f, .f (.fin q) => .ok (.flt f, .f (.fin (if q < 0 then -q else q)))
  | .flt f, .f (.inf _) => .ok (.flt f, .f (.inf false))
  | .flt f, .f .nan => .ok (.flt f, .f .nan)
  | _, _ => .nocompile "ill-typed"

/-- `isnan(q)`. -/
def isnanQ : Val → Bool
  | .f .nan => true
  | _ => false

/-! ### Result units (which unit the returned quantity carries) -/

inductive ResUnit where
  | raw            -- a raw number (no unit)
  | target         -- the unit slot passed as first argument
  | first          -- the unit of the (first) quantity argument
  | common         -- `CommonUnitT` of all quantity arguments
  | radians
deriving DecidableEq, Repr

def resultUnit (fn : String) : Option ResUnit :=
  match fn with
  | "round_in" | "floor_in" | "ceil_in" | "inverse_in" | "sin" | "cos" | "tan" | "isnan" => some .raw
  | "round_as" | "floor_as" | "ceil_as" | "inverse_as" => some .target
  | "abs" | "copysign" => some .first
  | "hypot" | "fmod" | "remainder" | "min" | "max" | "clamp" => some .common
  | "arcsin" | "arccos" | "arctan" | "arctan2" => some .radians
  | _ => none

end Au.C15
