/-
  AuModel.ApplyMag — `apply_magnitude.hh` and `apply_rational_magnitude_to_integral.hh`
  for integral `T` and a positive rational factor `N / D` in lowest terms, transcribed clause by
  clause.  `x` is the stored value (in range of `T`).

  `gvInt T n` is `get_value_result<T>(mag<n>())` for an integer magnitude: `some n` when it fits,
  `none` for ERR_CANNOT_FIT.  (The library's evaluation of integer magnitudes is modelled in full
  in `AuModel.GetValue`; `gvInt` is its specification for magnitudes whose prime bases are below
  2^63 — see finding F1 for the rest.)
-/
import AuModel.Arith

namespace Au
open IntTy

def gvInt (t : IntTy) (n : Nat) : Option Int :=
  if (n : Int) ≤ t.hi then some (n : Int) else none

/-- `ApplyAs` restricted to rational magnitudes. -/
inductive Cat where
  | intMul | intDiv | rational
deriving DecidableEq, Repr

/-- `categorize_magnitude` (N, D coprime and positive). -/
def categorize (N D : Nat) : Cat :=
  if D = 1 then .intMul else if N = 1 then .intDiv else .rational

/-- `clamp_to_range_of<T>(v)` (the comparisons are the mathematically exact `stdx::cmp_*`). -/
def clampTo (t : IntTy) (v : Int) : Int :=
  if v > t.hi then t.hi else if v < t.lo then t.lo else v

/-- `is_known_to_be_less_than_one`: numerator known to fit `uintmax_t`; denominator may not. -/
def lessThanOne (N D : Nat) : Bool :=
  match gvInt u64 D with
  | some d => (N : Int) < d
  | none => true

/-- `MaxNonOverflowingValue<T, N/D>::value()`. -/
def maxNonOverflowing (t : IntTy) (N D : Nat) : Int :=
  let p := t.promote
  match gvInt p N with
  | none => 0
  | some n =>
    if lessThanOne N D then clampTo t (Int.tdiv p.hi n)
    else
      match gvInt p D with
      | none => 0        -- unreachable: N > D and N fits `p` (lemma `den_fits_of_not_lessThanOne`)
      | some den =>
        let limit := if den > Int.tdiv p.hi t.hi then p.hi else t.hi * den
        clampTo t (Int.tdiv limit n)

/-- `MinNonOverflowingValue<T, N/D>::value()` (signed `T` only). -/
def minNonOverflowing (t : IntTy) (N D : Nat) : Int :=
  let p := t.promote
  match gvInt p N with
  | none => 0
  | some n =>
    if lessThanOne N D then clampTo t (Int.tdiv p.lo n)
    else
      match gvInt p D with
      | none => 0
      | some den =>
        let limit := if den > Int.tdiv p.lo t.lo then p.lo else t.lo * den
        clampTo t (Int.tdiv limit n)

/-- `OverflowChecker<T, valid>::would_product_overflow(x, mag)` for integral `T`. -/
def wouldProductOverflow (t : IntTy) (x : Int) (m : Option Int) : Bool :=
  match m with
  | some mv => decide (x > Int.tdiv t.hi mv) || decide (x < Int.tdiv t.lo mv)
  | none => decide (x ≠ 0)

/-- `TruncationChecker<T, valid>::would_truncate(x, mag)` for integral `T`. -/
def truncationChecker (x : Int) (m : Option Int) : Bool :=
  match m with
  | some mv => decide (Int.tmod x mv ≠ 0)
  | none => decide (x ≠ 0)

/-- `ApplyMagnitudeT<T, N/D>::would_overflow(x)`. -/
def wouldOverflow (t : IntTy) (N D : Nat) (x : Int) : Bool :=
  match categorize N D with
  | .intMul => wouldProductOverflow t x (gvInt t N)
  | .intDiv => false
  | .rational =>
    if t.signed then
      !(decide (x ≤ maxNonOverflowing t N D) && decide (x ≥ minNonOverflowing t N D))
    else
      !(decide (x ≤ maxNonOverflowing t N D))

/-- `ApplyMagnitudeT<T, N/D>::would_truncate(x)`. -/
def wouldTruncate (t : IntTy) (N D : Nat) (x : Int) : Bool :=
  match categorize N D with
  | .intMul => false
  | .intDiv => truncationChecker x (gvInt t D)
  | .rational => truncationChecker x (gvInt t.promote D)   -- checked in the promoted type (fix of F8)

/-- `is_conversion_lossy(q, unit)` (no change of rep). -/
def isLossy (t : IntTy) (N D : Nat) (x : Int) : Bool :=
  wouldTruncate t N D x || wouldOverflow t N D x

/-- Whether `apply_magnitude` (hence `coerce_in` / `coerce_as`) compiles: the `get_value<…>`
static_asserts the chosen operator needs. -/
def compiles (t : IntTy) (N D : Nat) : Bool :=
  match categorize N D with
  | .intMul => (gvInt t N).isSome
  | .intDiv => (gvInt t D).isSome
  | .rational => (gvInt t.promote N).isSome && (gvInt t.promote D).isSome

/-- The result of `apply_magnitude(x, N/D)` in `T`: every intermediate is evaluated in the
promoted type, the final conversion back to `T` is modular and flagged `narrowed` if lossy. -/
structure ApplyResult where
  val : Eval Int            -- value returned (after conversion to `T`)
  wrapped : Bool            -- an unsigned intermediate wrapped around
  narrowed : Bool           -- the final conversion to `T` changed the value
deriving Repr, DecidableEq

def finish (t : IntTy) (s : Step) : ApplyResult :=
  match s.val with
  | .ok v => ⟨.ok (t.wrap v), s.wrapped, decide (t.wrap v ≠ v)⟩
  | .ub w => ⟨.ub w, s.wrapped, false⟩

def applyMag (t : IntTy) (N D : Nat) (x : Int) : ApplyResult :=
  let p := t.promote
  match categorize N D with
  | .intMul => finish t (mulIn p x N)
  | .intDiv => finish t (divIn p x D)
  | .rational =>
    let s := mulIn p x N
    match s.val with
    | .ok v =>
      let q := divIn p v D
      finish t ⟨q.val, s.wrapped || q.wrapped⟩
    | .ub w => ⟨.ub w, s.wrapped, false⟩

end Au

namespace Au
open IntTy

/-! ### Certificates: interval / modulus descriptions of the checkers, used by the exhaustive
correspondence sweeps.  `okInterval_spec` and `truncKind_spec` in `AuProofs.Lemmas.ApplyMag` prove they describe the pointwise functions. -/

/-- The set of in-range `x` on which `wouldOverflow` is false, as a closed interval. -/
def okInterval (t : IntTy) (N D : Nat) : Int × Int :=
  match categorize N D with
  | .intMul =>
    match gvInt t N with
    | some mv => (Int.tdiv t.lo mv, Int.tdiv t.hi mv)
    | none => (0, 0)
  | .intDiv => (t.lo, t.hi)
  | .rational => (if t.signed then minNonOverflowing t N D else t.lo, maxNonOverflowing t N D)

/-- How `wouldTruncate` depends on `x`. -/
inductive TruncKind where
  | never
  | modulus (d : Int)      -- truncates iff `x % d ≠ 0`
  | nonzero                -- truncates iff `x ≠ 0`
deriving Repr, DecidableEq

def truncKind (t : IntTy) (N D : Nat) : TruncKind :=
  match categorize N D with
  | .intMul => .never
  | .intDiv => match gvInt t D with
    | some d => .modulus d
    | none => .nonzero
  | .rational => match gvInt t.promote D with
    | some d => .modulus d
    | none => .nonzero

def TruncKind.eval : TruncKind → Int → Bool
  | .never, _ => false
  | .modulus d, x => decide (Int.tmod x d ≠ 0)
  | .nonzero, x => decide (x ≠ 0)

end Au
