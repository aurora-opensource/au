import AuModel.Outcome
namespace Au

/-! # C01 — dimension mismatches are rejected at compile time

The theorems are about the gate table (`AuModel.Outcome`), read off the anchored static_asserts and
enable_ifs; the library's agreement with the table is validated by compile probes on every run. -/

/-- Every operation's gate list starts with the same-dimension gate, which fails softly for the
trait-style questions and hard for everything else. -/
theorem outcome_mismatch (op : Op) (policyOk opOk : Bool) :
    outcome op false policyOk opOk = if op.isTrait then .softNo else .hard := by
  cases op <;> rfl

/-- With a dimension mismatch no operation is accepted, whatever the policy says. -/
theorem C01_mismatch_never_ok (op : Op) (policyOk opOk : Bool) :
    outcome op false policyOk opOk ≠ .ok := by
  rw [outcome_mismatch]; cases op.isTrait <;> decide

/-- Trait-style questions answer "no" for a dimension mismatch without a hard error … -/
theorem C01_traits_soft (op : Op) (h : op.isTrait = true) (policyOk opOk : Bool) :
    outcome op false policyOk opOk = .softNo := by
  rw [outcome_mismatch, h]; rfl

/-- … and every non-trait operation makes the program ill-formed. -/
theorem C01_nontrait_hard (op : Op) (h : op.isTrait = false) (policyOk opOk : Bool) :
    outcome op false policyOk opOk = .hard := by
  rw [outcome_mismatch, h]; rfl

/-- With matching dimensions the same expression is accepted whenever the conversion policy (and the
operation's own requirement) allows it. -/
theorem C01_same_dim_ok (op : Op) : outcome op true true true = .ok := by
  cases op <;> rfl

/-- Traits never hard-error, whatever the operands. -/
theorem C01_traits_total (op : Op) (h : op.isTrait = true) (sameDim policyOk opOk : Bool) :
    outcome op sameDim policyOk opOk ≠ .hard := by
  cases sameDim
  · rw [C01_traits_soft op h]; decide
  · -- the six traits: every gate of theirs fails softly
    cases op <;> cases h <;> cases policyOk <;> cases opOk <;> decide

/-- `Op.all` (what the driver's `ops` command prints and the check iterates over) lists every
constructor of `Op`. -/
theorem C01_ops_complete : ∀ op : Op, op ∈ Op.all := by
  -- `Op.all` lists the constructors in the order of their declaration
  intro op
  have : Op.all[op.ctorIdx]? = some op := by cases op <;> rfl
  exact List.mem_of_getElem? this

end Au
