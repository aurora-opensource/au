import AuModel.Unit
import AuProofs.Lemmas.Unit
namespace Au
open Pack

/-! # C02 — unit algebra is exact and canonical

All statements hold for **every** strict total order `lt` on unit types (the library's
`InOrderFor<UnitProduct, ·, ·>` is one on the units that occur — per-run obligation
`AuProofs.Gen.C02`), every environment of named units with valid `Dim`/`Mag` packs, and every
expression tree — no bound on depth or size. -/

section
variable {lt : U → U → Bool}

/-- Products: `DimT<UnitProductT<A,B>>` has exponents `dim A + dim B`; same for `MagT`.  As equalities of
packs: `PackSem.mul`, `PackSem.pow` in `Lemmas/Unit.lean`. -/
theorem U.mul_dim_mag (hlt : StrictTotal lt) (env : Env) (hw : env.WF) {a b : U}
    (ha : HGood lt a) (hb : HGood lt b) :
    (∀ d, den ((U.mul lt a b).dimOf env) d = den (a.dimOf env) d + den (b.dimOf env) d) ∧
    (∀ x, den ((U.mul lt a b).magOf env) x = den (a.magOf env) x + den (b.magOf env) x) := by
  rw [(PackSem.dimOf lt env hw).mul hlt ha hb, (PackSem.magOf lt env hw).mul hlt ha hb]
  exact ⟨mul_den dimLt_strictTotal _ _ (ha.dimOf_valid hw).1 (hb.dimOf_valid hw).1,
    mul_den MagBase.lt_strictTotal _ _ (ha.magOf_valid hw).1 (hb.magOf_valid hw).1⟩

/-- Powers and roots: exponents are multiplied by the (rational) power. -/
theorem U.pow_dim_mag (env : Env) (hw : env.WF) {a : U} (ha : HGood lt a) (q : Rat) :
    (∀ d, den ((a.pow q).dimOf env) d = den (a.dimOf env) d * q) ∧
    (∀ x, den ((a.pow q).magOf env) x = den (a.magOf env) x * q) := by
  rw [(PackSem.dimOf lt env hw).pow ha q, (PackSem.magOf lt env hw).pow ha q]
  exact ⟨pow_den _ q, pow_den _ q⟩

/-- `MagT<ComputeScaledUnit<U, M>>` is `MagProductT<MagT<U>, M>` — also where nested scalings
collapse and where the scaling cancels to ONE — and `DimT` is unchanged. -/
theorem U.scale_dim_mag_pack (env : Env) (hw : env.WF) {a : U} (ha : HGood lt a) (m : Mag)
    (hm : Valid MagBase.lt m) :
    (a.scale m).dimOf env = a.dimOf env ∧ (a.scale m).magOf env = Mag.mul (a.magOf env) m := by
  unfold U.scale
  split
  next v old =>
    cases ha with
    | scaled _ _ hv ho =>
      have assoc : Mag.mul (Mag.mul (v.magOf env) old) m = Mag.mul (v.magOf env) (Mag.mul old m) :=
        mul_assoc MagBase.lt_strictTotal _ _ _ (hv.magOf_valid hw) ho hm
      simp only [U.magOf, assoc]
      split
      next hnil => rw [hnil]; exact ⟨rfl, (mul_nil_right _).symm⟩
      · exact ⟨rfl, rfl⟩
  · split
    next hnil => subst hnil; exact ⟨rfl, (mul_nil_right _).symm⟩
    · exact ⟨rfl, rfl⟩

/-- The same exponent by exponent, the form `C02_dim_mag_exact` uses. -/
theorem U.scale_dim_mag (env : Env) (hw : env.WF) {a : U} (ha : HGood lt a) (m : Mag)
    (hm : Valid MagBase.lt m) :
    (a.scale m).dimOf env = a.dimOf env ∧
    (∀ x, den ((a.scale m).magOf env) x = den (a.magOf env) x + den m x) := by
  obtain ⟨hd, hmag⟩ := U.scale_dim_mag_pack env hw ha m hm
  exact ⟨hd, hmag ▸ mul_den MagBase.lt_strictTotal _ _ (ha.magOf_valid hw).1 hm.1⟩

/-- **C02 (dimension and magnitude are the exact algebraic result).**  For every expression tree
over well-formed units, the dimension exponents and the magnitude exponents (per prime and π) of
the resulting unit type equal the textbook algebra: add under `*`, subtract under `/`, scale under
powers/roots, add the scaling magnitude's exponents. -/
theorem C02_dim_mag_exact (hlt : StrictTotal lt) (env : Env) (hw : env.WF) :
    (e : UExpr) → (∀ u ∈ e.atoms, HGood lt u) → (∀ m ∈ e.scales, Valid MagBase.lt m) →
    (∀ d, den ((e.eval lt).dimOf env) d = e.dimSem env d) ∧
    (∀ x, den ((e.eval lt).magOf env) x = e.magSem env x)
  | .atom u, _, _ => ⟨fun _ => rfl, fun _ => rfl⟩
  | .mul a b, h, hs => by
    have ⟨haa, hab⟩ := List.forall_mem_append.1 h
    have ⟨hsa, hsb⟩ := List.forall_mem_append.1 hs
    have iha := C02_dim_mag_exact hlt env hw a haa hsa
    have ihb := C02_dim_mag_exact hlt env hw b hab hsb
    have hm := U.mul_dim_mag hlt env hw (HGood.eval hlt a haa hsa) (HGood.eval hlt b hab hsb)
    exact ⟨fun d => by rw [UExpr.eval, hm.1, iha.1, ihb.1, UExpr.dimSem],
           fun x => by rw [UExpr.eval, hm.2, iha.2, ihb.2, UExpr.magSem]⟩
  | .div a b, h, hs => by
    have ⟨haa, hab⟩ := List.forall_mem_append.1 h
    have ⟨hsa, hsb⟩ := List.forall_mem_append.1 hs
    have iha := C02_dim_mag_exact hlt env hw a haa hsa
    have ihb := C02_dim_mag_exact hlt env hw b hab hsb
    have hgb := HGood.eval hlt b hab hsb
    have hp := U.pow_dim_mag env hw hgb (-1)
    have hm := U.mul_dim_mag hlt env hw (HGood.eval hlt a haa hsa) (hgb.pow (-1))
    exact ⟨fun d => by rw [UExpr.eval, U.div, hm.1, hp.1, iha.1, ihb.1, UExpr.dimSem],
           fun x => by rw [UExpr.eval, U.div, hm.2, hp.2, iha.2, ihb.2, UExpr.magSem]⟩
  | .pow a q, h, hs => by
    have iha := C02_dim_mag_exact hlt env hw a h hs
    have hp := U.pow_dim_mag env hw (HGood.eval hlt a h hs) q
    exact ⟨fun d => by rw [UExpr.eval, hp.1, iha.1, UExpr.dimSem],
           fun x => by rw [UExpr.eval, hp.2, iha.2, UExpr.magSem]⟩
  | .scale a m, h, hs => by
    have ⟨hm, hsa⟩ := List.forall_mem_cons.1 hs
    have iha := C02_dim_mag_exact hlt env hw a h hsa
    have hsc := U.scale_dim_mag env hw (HGood.eval hlt a h hsa) m hm
    exact ⟨fun d => by rw [UExpr.eval, hsc.1, iha.1, UExpr.dimSem],
           fun x => by rw [UExpr.eval, hsc.2, iha.2, UExpr.magSem]⟩

end
end Au
