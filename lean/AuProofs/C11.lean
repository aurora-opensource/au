import AuProofs.Lemmas.GetValue
import AuProofs.Lemmas.FltPipeline
namespace Au

/-! # C11 — `get_value_result<T>` for integral `T`; classification: `C11Class`; floating accuracy on integer magnitudes:
`Lemmas/FltGetValue` -/

/-- **C11, integral types (full strength, on the tree after the `fix:` commit for F1).**
`get_value_result<T>(m)` is OK with value `v` exactly when `m` is an integer, its exact value fits
`T`, and `v` is that exact value. -/
theorem C11_integral (t : IntTy) (ht : t ∈ IntTy.all) (m : Mag)
    (hpos : ∀ a ∈ m, ∀ p, a.1 = .prime p → 1 ≤ p) (v : Int) :
    getValueResultInt t m = (.ok, v) ↔
      (Mag.isIntegerMag m = true ∧ Mag.natValue m ≤ t.hi ∧ v = Mag.natValue m) := by
  rw [getValueResultInt_closed t ht m hpos]
  cases Mag.isIntegerMag m with
  | false => simp
  | true =>
    by_cases h : Mag.natValue m ≤ t.hi
    · simp [h, eq_comm]
    · simp [h]

/-- Regression guards for finding F1 (fixed): a prime base above 2^63 is not representable in any
signed type, and is exactly representable in `uint64_t`. -/
theorem C11_F1_fixed :
    getValueResultInt IntTy.i8 [(.prime 18446744073709551557, 1)] = (.errCannotFit, 0) ∧
    getValueResultInt IntTy.i64 [(.prime 18446744073709551557, 1)] = (.errCannotFit, 0) ∧
    getValueResultInt IntTy.u64 [(.prime 18446744073709551557, 1)] = (.ok, 18446744073709551557) := by
  decide +kernel

/-- Non-vacuity of `C11_integral`: 2^6·3 = 192 fits `uint8_t` but not `int8_t`. -/
example : getValueResultInt IntTy.u8 [(.prime 2, 6), (.prime 3, 1)] = (.ok, 192) ∧
    getValueResultInt IntTy.i8 [(.prime 2, 6), (.prime 3, 1)] = (.errCannotFit, 0) := by decide +kernel

/-- Regression guard for finding F6 (fixed): 10^-50 underflows to zero in `float` and is therefore
reported as not representable; it is representable in `double`. -/
theorem C11_F6_fixed :
    (getValueResultFlt FltTy.f32 [(.prime 2, -50), (.prime 5, -50)]).1 = .errCannotFit ∧
    (getValueResultFlt FltTy.f64 [(.prime 2, -50), (.prime 5, -50)]).1 = .ok := by
  -- The guards of `checked_int_pow` divide the 16384-bit `max(long double)` in every iteration: that division is what is slow
  -- to evaluate.  2^50 and 5^50 ≤ 2^150 (`5 ≤ 2^3`) are far below it, so the two power loops are replaced by their guard-free
  -- form before the rest is evaluated.
  have b2 : Flt.ofInt ld (IntTy.u64.wrap ((2 : Nat) : Int)) = Flt.fin 2 := by decide +kernel
  have b5 : Flt.ofInt ld (IntTy.u64.wrap ((5 : Nat) : Int)) = Flt.fin 5 := by decide +kernel
  have h2 : checkedIntPowF (Flt.fin 2) 50 = some (sqmulF 50 (Flt.fin 1) (Flt.fin 2) 50) :=
    cipLoopF_eq_sqmulF 50 50 _ _ (i := 0) (j := 1) le_rfl ⟨1, rfl, le_rfl, by norm_num⟩ ⟨2, rfl, by norm_num, by norm_num⟩
      (by norm_num)
  have h5 : checkedIntPowF (Flt.fin 5) 50 = some (sqmulF 50 (Flt.fin 1) (Flt.fin 5) 50) :=
    cipLoopF_eq_sqmulF 50 50 _ _ (i := 0) (j := 3) le_rfl ⟨1, rfl, le_rfl, by norm_num⟩ ⟨5, rfl, by norm_num, by norm_num⟩
      (by norm_num)
  have e50 : (-50 : Rat).num.natAbs = 50 := by decide
  simp only [getValueResultFlt, List.map_cons, List.map_nil, basePowerValueF, b2, b5, e50, h2, h5]
  decide +kernel

end Au
