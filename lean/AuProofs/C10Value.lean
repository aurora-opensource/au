import AuProofs.C10
import AuProofs.Lemmas.MagRatio
namespace Au
open Pack

/-! # C07 / C10 at the level of values

The exponent-level theorems lifted to exact rational values; `C07_divides_value` stands here because
`disp_int_multiple` uses it. -/

/-- **C07 (divides, value form).**  For rational magnitudes, every input is a positive-integer
multiple of `CommonMagnitude<Ms...>`. -/
theorem C07_divides_value (piv : Rat) (hpi : 0 < piv) (ms : List Mag) (h : ∀ m ∈ ms, Mag.Rational m)
    (m : Mag) (hm : m ∈ ms) :
    ∃ k : Nat, 0 < k ∧ Mag.qval piv m = (k : Rat) * Mag.qval piv (Mag.commonAll ms) :=
  rational_ratio_posInt piv hpi m _ (h m hm) (Mag.commonAll_rational ms h)
    (C07_divides ms (fun m hm => (h m hm).valid) m hm).1

theorem commonPointMag_rational (unitMags dispMags : List Mag)
    (hu : ∀ m ∈ unitMags, Mag.Rational m) (hd : ∀ m ∈ dispMags, Mag.Rational m) :
    Mag.Rational (commonPointMag unitMags dispMags) := by
  unfold commonPointMag
  cases dispMags with
  | nil => exact Mag.commonAll_rational _ hu
  | cons d ds =>
    exact Mag.commonAll_rational _
      (List.forall_mem_append.2 ⟨hu, List.forall_mem_singleton.2 (Mag.commonAll_rational _ hd)⟩)

/-- The scale factor of every input unit into the common point unit is a positive integer. -/
theorem C10_scale_posInt (piv : Rat) (hpi : 0 < piv) (unitMags dispMags : List Mag)
    (hu : ∀ m ∈ unitMags, Mag.Rational m) (hd : ∀ m ∈ dispMags, Mag.Rational m) (m : Mag) (hm : m ∈ unitMags) :
    ∃ a : Nat, 0 < a ∧ Mag.qval piv m = (a : Rat) * Mag.qval piv (commonPointMag unitMags dispMags) :=
  rational_ratio_posInt piv hpi m _ (hu m hm) (commonPointMag_rational _ _ hu hd)
    (C10_divides_units unitMags dispMags (fun m hm => (hu m hm).valid) (fun m hm => (hd m hm).valid) m hm)

/-- The unit of every non-zero origin displacement is a positive-integer multiple of the common point unit. -/
theorem C10_disp_posInt (piv : Rat) (hpi : 0 < piv) (unitMags dispMags : List Mag)
    (hu : ∀ m ∈ unitMags, Mag.Rational m) (hd : ∀ m ∈ dispMags, Mag.Rational m) (d : Mag) (hdm : d ∈ dispMags) :
    ∃ k : Nat, 0 < k ∧ Mag.qval piv d = (k : Rat) * Mag.qval piv (commonPointMag unitMags dispMags) :=
  rational_ratio_posInt piv hpi d _ (hd d hdm) (commonPointMag_rational _ _ hu hd)
    (C10_divides_displacements unitMags dispMags (fun m hm => (hu m hm).valid) (fun m hm => (hd m hm).valid) d hdm)

/-- Exact position of a declared origin (in base units): `count · value(unit)`; `ZERO` for no declaration. -/
def declPos (piv : Rat) : OriginDecl → Rat
  | none => 0
  | some (c, m) => (c : Rat) * Mag.qval piv m

def OriginDecl.Rational : OriginDecl → Prop
  | none => True
  | some (_, m) => Mag.Rational m

theorem dispUnitMag_rational (oc ou : OriginDecl) (pc pu : Origin) (hoc : oc.Rational) (hou : ou.Rational) (d : Mag)
    (h : dispUnitMag oc ou pc pu = some d) : Mag.Rational d := by
  unfold dispUnitMag at h
  split at h
  · cases h
  · match oc, ou, hoc, hou with
    | none, none, _, _ => cases h
    | none, some (_, m), _, hm => cases h; exact hm
    | some (_, m), none, hm, _ => cases h; exact hm
    | some (_, mc), some (_, mu), hmc, hmu =>
      cases h
      rw [← Mag.commonAll_pair]
      exact Mag.commonAll_rational [mc, mu] (List.forall_mem_cons.2 ⟨hmc, List.forall_mem_singleton.2 hmu⟩)

theorem disp_int_multiple (piv : Rat) (hpi : 0 < piv) (oc ou : OriginDecl) (pc pu : Origin)
    (hoc : oc.Rational) (hou : ou.Rational)
    (hpc : pc.pos = declPos piv oc) (hpu : pu.pos = declPos piv ou) (hne : pc.pos ≠ pu.pos) :
    ∃ d, dispUnitMag oc ou pc pu = some d ∧
      ∃ n : Int, declPos piv ou - declPos piv oc = (n : Rat) * Mag.qval piv d := by
  unfold dispUnitMag
  rw [if_neg hne]
  match oc, ou, hoc, hou with
  | none, none, _, _ => exact absurd (hpc.trans hpu.symm) hne
  | none, some (cu, mu), _, _ => exact ⟨mu, rfl, cu, by simp [declPos]⟩
  | some (cc, mc), none, _, _ => exact ⟨mc, rfl, -cc, by simp [declPos]⟩
  | some (cc, mc), some (cu, mu), hmc, hmu =>
    have hboth : ∀ m ∈ [mc, mu], Mag.Rational m :=
      List.forall_mem_cons.2 ⟨hmc, List.forall_mem_singleton.2 hmu⟩
    obtain ⟨k1, _, hk1⟩ := C07_divides_value piv hpi [mc, mu] hboth mc (by simp)
    obtain ⟨k2, _, hk2⟩ := C07_divides_value piv hpi [mc, mu] hboth mu (by simp)
    refine ⟨Mag.commonAll [mc, mu], by rw [Mag.commonAll_pair], cu * k2 - cc * k1, ?_⟩
    simp only [declPos]
    rw [hk1, hk2]
    push_cast; ring

/-- **The additive offset is a non-negative integer.**  If the origin of `U` lies at or above the
common origin, and the common point unit's magnitude `M` divides the unit of the displacement
`origin(U) − origin(common)` (`C10_divides_displacements`), then the displacement is `b · value(M)`
for a natural number `b`. -/
theorem C10_offset_nat (piv : Rat) (hpi : 0 < piv) (oc ou : OriginDecl) (pc pu : Origin) (M : Mag)
    (hoc : oc.Rational) (hou : ou.Rational) (hM : Mag.Rational M)
    (hpc : pc.pos = declPos piv oc) (hpu : pu.pos = declPos piv ou)
    (hle : declPos piv oc ≤ declPos piv ou)
    (hdiv : ∀ d, dispUnitMag oc ou pc pu = some d → ∀ x, 0 ≤ den d x - den M x) :
    ∃ b : Nat, declPos piv ou - declPos piv oc = (b : Rat) * Mag.qval piv M := by
  by_cases heq : pc.pos = pu.pos
  · exact ⟨0, by rw [← hpc, ← hpu, heq]; simp⟩
  · -- displacement = n · value(d) with d = k · M, and it is non-negative, so n·k is a natural number
    obtain ⟨d, hd, n, hn⟩ := disp_int_multiple piv hpi oc ou pc pu hoc hou hpc hpu heq
    obtain ⟨k, _, hk⟩ := rational_ratio_posInt piv hpi d M
      (dispUnitMag_rational oc ou pc pu hoc hou d hd) hM (hdiv d hd)
    have hnk : declPos piv ou - declPos piv oc = ((n * k : Int) : Rat) * Mag.qval piv M := by
      rw [hn, hk]; push_cast; ring
    have h0 : 0 ≤ n * k := Int.cast_nonneg_iff.1
      (nonneg_of_mul_nonneg_left (by rw [← hnk]; linarith) (qval_pos piv hpi M hM.pos))
    exact ⟨(n * k).toNat, by rw [hnk]; congr 1; exact_mod_cast (Int.toNat_of_nonneg h0).symm⟩

/-- **C10 (assembly).**  A point with stored value `x` in unit `U` (magnitude `m`, origin `ou`) is the
same absolute position as the point with stored value `a·x + b` in the common point unit (magnitude
`M`, origin `oc`), where `a` is a positive integer and `b` a non-negative integer that do not depend
on `x`: integral and unsigned reps stay exact. -/
theorem C10_affine (piv : Rat) (hpi : 0 < piv) (unitMags dispMags : List Mag)
    (hu : ∀ m ∈ unitMags, Mag.Rational m) (hd : ∀ m ∈ dispMags, Mag.Rational m)
    (m : Mag) (hm : m ∈ unitMags) (oc ou : OriginDecl) (pc pu : Origin)
    (hoc : oc.Rational) (hou : ou.Rational)
    (hpc : pc.pos = declPos piv oc) (hpu : pu.pos = declPos piv ou)
    (hle : declPos piv oc ≤ declPos piv ou)
    (hdisp : ∀ d, dispUnitMag oc ou pc pu = some d → d ∈ dispMags) :
    ∃ a b : Nat, 0 < a ∧ ∀ x : Int,
      (x : Rat) * Mag.qval piv m + declPos piv ou =
        ((a * x + b : Int) : Rat) * Mag.qval piv (commonPointMag unitMags dispMags) + declPos piv oc := by
  obtain ⟨a, ha, haq⟩ := C10_scale_posInt piv hpi unitMags dispMags hu hd m hm
  obtain ⟨b, hbq⟩ := C10_offset_nat piv hpi oc ou pc pu _ hoc hou (commonPointMag_rational _ _ hu hd) hpc hpu hle
    (fun d hd' x => C10_divides_displacements unitMags dispMags (fun m hm => (hu m hm).valid)
      (fun m hm => (hd m hm).valid) d (hdisp d hd') x)
  refine ⟨a, b, ha, fun x => ?_⟩
  rw [haq]
  push_cast
  linarith

/-- Kelvins (m = 1, no origin) and Celsius (m = 1, origin 27315 centi-kelvins): the
common point unit has magnitude 1/100 = 2^-2·5^-2. -/
example : commonPointMag [[], []] [[(.prime 2, -2), (.prime 5, -2)]] = [(.prime 2, -2), (.prime 5, -2)] := by
  decide +kernel

theorem foldl_toRatStep (piv : Rat) : ∀ (m : Mag) (v : Rat), Mag.IntExp m → Mag.PiFree m →
    m.foldl Mag.toRatStep (some v) = some (v * Mag.qval piv m)
  | [], v, _, _ => by simp [Mag.qval_nil]
  | a :: t, v, hi, hf => by
    have hd := hi a (List.mem_cons_self ..)
    rw [List.foldl_cons, Mag.qval_cons]
    cases hb : a.1 with
    | pi => exact absurd hb (hf a (List.mem_cons_self ..))
    | prime p =>
      simp only [Mag.toRatStep, hb, hd, if_true]
      have ht := fun w => foldl_toRatStep piv t w (intExp_tail hi) (fun x hx => hf x (List.mem_cons_of_mem _ hx))
      by_cases hn : 0 ≤ a.2.num
      · rw [if_pos hn, ht, _root_.mul_assoc, bval, hb, MagBase.qv, natCast_zpow_of_nonneg p hn]
      · rw [if_neg hn, ht, div_eq_mul_inv, _root_.mul_assoc, bval, hb, MagBase.qv,
          ← natCast_zpow_of_nonneg p (by omega : 0 ≤ -a.2.num), zpow_neg, inv_inv]

/-- `Mag.toRat?` (the driver's exact evaluation) agrees with `qval` on rational magnitudes. -/
theorem toRat_eq_qval (piv : Rat) (m : Mag) (h : Mag.Rational m) : Mag.toRat? m = some (Mag.qval piv m) := by
  unfold Mag.toRat?
  rw [foldl_toRatStep piv m 1 h.int h.free]; simp

/-- What `toOrigin?` returns on a rational declaration. -/
def declOrigin (piv : Rat) : OriginDecl → Origin
  | none => ⟨0, 0, 0⟩
  | some (c, m) => ⟨(c : Rat) * Mag.qval piv m, c, 0⟩

theorem declOrigin_pos (piv : Rat) (o : OriginDecl) : (declOrigin piv o).pos = declPos piv o := by
  cases o <;> rfl

theorem toOrigin_eq (piv : Rat) (o : OriginDecl) (ho : o.Rational) : o.toOrigin? = some (declOrigin piv o) := by
  match o, ho with
  | none, _ => rfl
  | some (c, m), hm => simp only [OriginDecl.toOrigin?, toRat_eq_qval piv m hm, Option.map_some, declOrigin]

theorem commonOriginD_cons_cons (h a : Origin × OriginDecl) (t : List (Origin × OriginDecl)) :
    commonOriginD (h :: a :: t) =
      if h.1.pos < (commonOriginD (a :: t)).1.pos then h
      else if (commonOriginD (a :: t)).1.pos < h.1.pos then commonOriginD (a :: t)
      else if h.1.native < (commonOriginD (a :: t)).1.native then h else commonOriginD (a :: t) := rfl

theorem commonOriginD_fst : ∀ l : List (Origin × OriginDecl), (commonOriginD l).1 = commonOrigin (l.map Prod.fst)
  | [] => rfl
  | [_] => rfl
  | h :: a :: t => by
    have ih := commonOriginD_fst (a :: t)
    rw [commonOriginD_cons_cons, List.map_cons, List.map_cons, commonOrigin_cons_cons]
    simp only [apply_ite Prod.fst, ih, List.map_cons]

theorem commonOriginD_mem : ∀ l : List (Origin × OriginDecl), l ≠ [] → commonOriginD l ∈ l
  | [], h => absurd rfl h
  | [_], _ => List.mem_cons_self ..
  | h :: a :: t, _ => by
    have ih := List.mem_cons_of_mem h (commonOriginD_mem (a :: t) (List.cons_ne_nil _ _))
    -- every branch returns the head or the tail's choice
    rw [commonOriginD_cons_cons]
    simp only [apply_ite (· ∈ h :: a :: t), List.mem_cons_self, ih, ite_self]

theorem commonOriginD_pos_le (l : List (Origin × OriginDecl)) (hne : l ≠ []) :
    ∀ o ∈ l, (commonOriginD l).1.pos ≤ o.1.pos := by
  intro o ho
  rw [commonOriginD_fst]
  have := (commonOrigin_min (l.map Prod.fst) (by simpa using hne)).2 o.1 (List.mem_map_of_mem ho)
  unfold Origin.le at this
  rcases this with h | h
  · exact le_of_lt h
  · exact le_of_eq h.1

theorem mapM_eq_some_map {α β : Type} (f : α → Option β) (g : α → β) :
    ∀ l : List α, (∀ a ∈ l, f a = some (g a)) → l.mapM f = some (l.map g)
  | [], _ => rfl
  | a :: t, h => by
    rw [List.mapM_cons, h a (List.mem_cons_self ..),
      mapM_eq_some_map f g t fun b hb => h b (List.mem_cons_of_mem _ hb)]
    rfl

/-- **C10, end to end.**  For every non-empty list of point units with rational scales and rational
origins, the model of `CommonPointUnit<Us...>` (the function the driver runs against the library)
returns a common point unit into which every input converts by `x ↦ a·x + b` with `a` a positive
and `b` a non-negative integer: integral and unsigned reps stay exact. -/
theorem C10_affine_full (piv : Rat) (hpi : 0 < piv) (us : List (Mag × OriginDecl)) (hne : us ≠ [])
    (hr : ∀ u ∈ us, Mag.Rational u.1 ∧ u.2.Rational) (M : Mag) (c : Origin) (oc : OriginDecl)
    (h : commonPointAssembly us = some (M, c, oc)) :
    ∀ u ∈ us, ∃ a b : Nat, 0 < a ∧ ∀ x : Int,
      (x : Rat) * Mag.qval piv u.1 + declPos piv u.2 = ((a * x + b : Int) : Rat) * Mag.qval piv M + declPos piv oc := by
  -- every origin is the rational one, so the origins are `us.map (declOrigin piv ·.2)` and the zips are maps
  unfold commonPointAssembly at h
  rw [mapM_eq_some_map _ (fun u => declOrigin piv u.2) us fun u hu => toOrigin_eq piv u.2 (hr u hu).2] at h
  simp only [List.zip, List.zipWith_map_right, List.zipWith_self, List.map_map, List.filterMap_map,
    Function.comp_def, Option.some.injEq, Prod.mk.injEq] at h
  -- the chosen origin comes from some input `u0` and lies at or below every input's origin
  have hne' : (us.map fun u => (declOrigin piv u.2, u.2)) ≠ [] := by simpa using hne
  have hcle := commonOriginD_pos_le _ hne'
  obtain ⟨u0, hu0, hu0eq⟩ := List.mem_map.1 (commonOriginD_mem _ hne')
  rw [← hu0eq] at h hcle
  have h : commonPointMag (us.map (·.1))
        (us.filterMap fun u => dispUnitMag u0.2 u.2 (declOrigin piv u0.2) (declOrigin piv u.2)) = M ∧
      declOrigin piv u0.2 = c ∧ u0.2 = oc := h
  obtain ⟨rfl, rfl, rfl⟩ := h
  intro u hu
  refine C10_affine piv hpi _ _ (fun m hm => ?_) (fun d hd => ?_) u.1 (List.mem_map_of_mem hu) u0.2 u.2
    (declOrigin piv u0.2) (declOrigin piv u.2) (hr u0 hu0).2 (hr u hu).2 (declOrigin_pos ..) (declOrigin_pos ..) ?_
    (fun d hd => List.mem_filterMap.2 ⟨u, hu, hd⟩)
  · obtain ⟨w, hw, rfl⟩ := List.mem_map.1 hm; exact (hr w hw).1
  · obtain ⟨w, hw, hwd⟩ := List.mem_filterMap.1 hd
    exact dispUnitMag_rational u0.2 w.2 _ _ (hr u0 hu0).2 (hr w hw).2 d hwd
  · rw [← declOrigin_pos, ← declOrigin_pos]
    exact hcle (declOrigin piv u.2, u.2) (List.mem_map_of_mem (f := fun u => (declOrigin piv u.2, u.2)) hu)

/-- Kelvins (no origin), Celsius (27315 centi-kelvins) and milli-kelvins: the assembly
returns magnitude 1/1000 (the finest unit also divides the displacement 273.15 K) and origin ZERO. -/
example : (commonPointAssembly [([], none), ([], some (27315, [(.prime 2, -2), (.prime 5, -2)])), ([(.prime 2, -3), (.prime 5, -3)], none)]).map
      (fun r => (r.1, r.2.1.pos)) = some ([(.prime 2, -3), (.prime 5, -3)], 0) := by
  decide +kernel

end Au
