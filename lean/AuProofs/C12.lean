/-
  C12 — factorisation, primality and the modular helpers on all 64-bit inputs.

  Model: AuModel.Mod / Primes / Factoring (every `uint64_t` operation is a wrapping operation that
  records wrap-around, division by zero and fuel exhaustion; `W.ok v` = value `v`, all flags clear).
  What is NOT proved: `is_prime n ↔ Nat.Prime n` for `n ≥ 2^16` (Baillie–PSW; it appears below only as an
  explicit hypothesis `BPSWSound`), and termination of Pollard's rho within its fuel.
-/
import AuProofs.Lemmas.Pratt
import AuProofs.Lemmas.NatMag
import AuProofs.Lemmas.SmallPrimesCert
import Generated.FirstPrimes
namespace Au
open U64

/-- `add_mod(a, b, n) = (a + b) mod n`, no intermediate wrap-around, for every modulus below 2^64
(moduli above 2^63 included) and operands below the modulus. -/
theorem C12_addMod_spec (a b n : Nat) (ha : a < n) (hb : b < n) (hn : n < 2 ^ 64) :
    addMod a b n = W.ok ((a + b) % n) :=
  addMod_spec ha.le hb hn

example : (18446744073709551614 : Nat) < 18446744073709551615 ∧ (18446744073709551615 : Nat) < 2 ^ 64 := by decide
example : addMod 18446744073709551614 18446744073709551613 18446744073709551615 = W.ok 18446744073709551612 := by decide

/-- `sub_mod(a, b, n) = (a - b) mod n` (mathematical, non-negative residue), no wrap-around. -/
theorem C12_subMod_spec (a b n : Nat) (ha : a < n) (hb : b < n) (hn : n < 2 ^ 64) :
    ∃ r : Nat, subMod a b n = W.ok r ∧ (r : Int) = ((a : Int) - (b : Int)) % (n : Int) := by
  refine ⟨(a + (n - b)) % n, subMod_spec ha hb hn, ?_⟩
  have h1 : ((a + (n - b) : Nat) : Int) = (a : Int) - b + n := by
    rw [Nat.cast_add, Nat.cast_sub (Nat.le_of_lt hb)]; ring
  rw [Int.natCast_mod, h1, Int.add_emod_right]

example : subMod 3 18446744073709551613 18446744073709551615 = W.ok 5 := by decide

/-- `mul_mod(a, b, n) = (a * b) mod n` with no intermediate wrap-around: neither the fast path, nor
the "negative space" chunking, nor any level of its recursion wraps, for every modulus below 2^64. -/
theorem C12_mulMod_spec (a b n : Nat) (ha : a < n) (hb : b < n) (hn : n < 2 ^ 64) :
    mulMod a b n = W.ok (a * b % n) :=
  mulMod_spec ha hb hn

example : mulMod 18446744073709551614 18446744073709551613 18446744073709551615 = W.ok 2 := by decide
example : mulMod 9223372036854775809 18446744073709551557 18446744073709551615 = W.ok 18446744073709551528 := by decide

/-- `half_mod_odd(a, n)` is the residue `r < n` with `2 r ≡ a (mod n)` (unique because `n` is odd),
computed without wrap-around. -/
theorem C12_halfModOdd_spec (a n : Nat) (ha : a < n) (hodd : n % 2 = 1) (hn : n < 2 ^ 64) :
    ∃ r : Nat, halfModOdd a n = W.ok r ∧ r < n ∧ 2 * r % n = a :=
  ⟨_, halfModOdd_spec ha hodd hn, halfV_spec ha hodd⟩

/-- Uniqueness of the value specified by `C12_halfModOdd_spec`. -/
theorem C12_half_unique (n r s : Nat) (hodd : n % 2 = 1) (hr : r < n) (hs : s < n) (h : 2 * r % n = 2 * s % n) : r = s := by
  have : r ≡ s [MOD n] := Nat.ModEq.cancel_left_of_coprime (c := 2) (coprime_two_of_odd hodd).symm h
  exact Nat.ModEq.eq_of_lt_of_lt this hr hs

example : halfModOdd 18446744073709551613 18446744073709551615 = W.ok 18446744073709551614 := by decide

/-- `pow_mod(base, exp, n) = base^exp mod n` for every 64-bit base and exponent and modulus `1 < n`,
without wrap-around. -/
theorem C12_powMod_spec (base exp n : Nat) (hn1 : 1 < n) (hn : n < 2 ^ 64) :
    powMod base exp n = W.ok (base ^ exp % n) :=
  powMod_spec hn1 hn

example : powMod 18446744073709551615 18446744073709551615 18446744073709551557 = W.ok 4959809447704153900 := by decide +kernel

/-- The statement without `1 < n` is false: `pow_mod(b, 0, 1)` returns 1, not `b^0 mod 1 = 0`.
(No caller in the library passes `n = 1`.) -/
def C12_powMod_full : Prop := ∀ base exp n : Nat, 0 < n → n < 2 ^ 64 → powMod base exp n = W.ok (base ^ exp % n)
theorem C12_powMod_counterexample : ¬ C12_powMod_full := by
  intro h
  have := h 5 0 1 (by decide) (by decide)
  revert this
  decide

/-- `gcd(a, b)` is the greatest common divisor (no precondition at all). -/
theorem C12_gcd_spec (a b : Nat) : U64.gcd a b = W.ok (Nat.gcd a b) := gcd_spec a b

/-- `decompose(n)` returns `(s, d)` with `n = 2^s d`, `d` odd, for every `0 < n < 2^64`. -/
theorem C12_decompose_spec (n : Nat) (h0 : 0 < n) (hn : n < 2 ^ 64) :
    ∃ s d, decompose n = W.ok ⟨s, d⟩ ∧ n = 2 ^ s * d ∧ d % 2 = 1 :=
  decompose_spec h0 hn

example : decompose 9223372036854775808 = W.ok ⟨63, 1⟩ := by decide
/-- `decompose(0)`: the model reports `stuck` (the C++ loop never leaves `d % 2 == 0` on 0). -/
example : (decompose 0).stuck = true := by decide

/-- `miller_rabin(a, n)` answers PROBABLY_PRIME exactly when `n` is a strong probable prime to base
`a`, COMPOSITE otherwise, on every valid input (`2 ≤ a`, `a + 2 ≤ n`, `n` odd), with no wrap-around
anywhere inside. -/
theorem C12_millerRabin_iff_strongProbablePrime (a n : Nat) (ha : 2 ≤ a) (han : a + 2 ≤ n)
    (hodd : n % 2 = 1) (hn : n < 2 ^ 64) :
    ∃ r, millerRabin a n = W.ok r ∧ (r = .probablyPrime ↔ StrongProbablePrime a n) ∧
      (r = .composite ↔ ¬ StrongProbablePrime a n) := by
  classical
  refine ⟨_, millerRabin_spec ha han hodd hn, ?_, ?_⟩ <;> by_cases h : StrongProbablePrime a n <;> simp [h]

example : millerRabin 2 2047 = W.ok .probablyPrime := by decide        -- the smallest strong pseudoprime to base 2
example : millerRabin 3 2047 = W.ok .composite := by decide

/-- `is_perfect_square(n)` (after fix F19: `n / curr == curr && n % curr == 0`) is exact for every
64-bit `n`, with no wrap-around, no division by zero, and within fuel: the Newton iteration from
`n / 2` stays at or above `⌊√n⌋` (integer AM–GM) and strictly decreases while above it. -/
theorem C12_isPerfectSquare_spec (n : Nat) (hn : n < 2 ^ 64) :
    (isPerfectSquare n = W.ok true ↔ ∃ k, k * k = n) ∧ (isPerfectSquare n = W.ok false ↔ ¬ ∃ k, k * k = n) := by
  rw [isPerfectSquare_spec n hn, Nat.exists_mul_self]
  by_cases hs : Nat.sqrt n * Nat.sqrt n = n <;> simp [hs]

example : isPerfectSquare 17179869188 = W.ok false := by decide +kernel          -- 2^34 + 4: wrongly `true` before F19
example : isPerfectSquare 18446744030759878681 = W.ok true := by decide +kernel  -- (2^32 - 5)^2
example : isPerfectSquare 10785637507345693793 = W.ok false := by decide +kernel

theorem firstPrimes_le_541 : ∀ p ∈ Generated.firstPrimes, p ≤ 541 := by decide

/-- The regenerated table is exactly the first 100 primes: 100 entries, strictly increasing, all
prime, and every prime up to 541 occurs. -/
theorem C12_firstPrimes_are_the_first_100_primes :
    Generated.firstPrimes.length = 100 ∧ List.Pairwise (· < ·) Generated.firstPrimes ∧
      (∀ p ∈ Generated.firstPrimes, Nat.Prime p) ∧ (∀ q, Nat.Prime q → q ≤ 541 → q ∈ Generated.firstPrimes) := by
  -- `<` is transitive, so comparing neighbours suffices
  refine ⟨by decide, List.isChain_iff_pairwise.1 (by decide +kernel), fun p hp => ?_, fun q hq hq541 => ?_⟩
  · have h : Generated.firstPrimes.all smallPrime = true := by decide +kernel
    exact (smallPrime_iff (by have := firstPrimes_le_541 p hp; omega)).1 (List.all_eq_true.1 h p hp)
  · have h : (List.range 542).all (fun q => !smallPrime q || Generated.firstPrimes.contains q) = true := by decide +kernel
    have := List.all_eq_true.1 h q (List.mem_range.2 (by omega))
    rw [(smallPrime_iff (by omega)).2 hq] at this
    simpa using this

theorem C12_firstPrimes_primeTable : PrimeTable Generated.firstPrimes := by
  obtain ⟨-, hsorted, hprime, hall⟩ := C12_firstPrimes_are_the_first_100_primes
  exact ⟨hsorted, hprime, fun p hp q hq hlt => hall q hq (by have := firstPrimes_le_541 p hp; omega)⟩

/-- Whatever `find_prime_factor(n)` returns divides `n` — unconditionally (any fuel, any table). -/
theorem C12_findPrimeFactor_divides (fu : Fuel) (table : List Nat) (n : Nat) :
    (findPrimeFactor fu table n).val ∣ n := findPrimeFactor_dvd fu table n

/-- For `n > 1`, if the model's loops end within their fuel, the returned factor `r` divides `n`,
is `> 1`, and is either a true prime (trial-division exits: proved via the table theorem) or a
number the library's own `is_prime` accepts (Pollard-rho exits). -/
theorem C12_findPrimeFactor_spec (fu : Fuel) (n : Nat) (hn : 1 < n)
    (hs : (findPrimeFactor fu Generated.firstPrimes n).stuck = false) :
    (findPrimeFactor fu Generated.firstPrimes n).val ∣ n ∧ 1 < (findPrimeFactor fu Generated.firstPrimes n).val ∧
      (Nat.Prime (findPrimeFactor fu Generated.firstPrimes n).val ∨
        (isPrime fu (findPrimeFactor fu Generated.firstPrimes n).val).val = true) :=
  findPrimeFactor_spec fu _ n hn C12_firstPrimes_primeTable hs

example : (1 : Nat) < 4295098369 ∧ (findPrimeFactor {} Generated.firstPrimes 4295098369).stuck = false ∧
    (findPrimeFactor {} Generated.firstPrimes 4295098369).val = 65537 := by decide +kernel

/-- Soundness of Baillie–PSW on 64-bit inputs as an explicit HYPOTHESIS (never an axiom): it is the
published exhaustive computation this framework does not re-prove. -/
def BPSWSound (fu : Fuel) : Prop := ∀ r : Nat, r < 2 ^ 64 → (isPrime fu r).val = true → Nat.Prime r

/-- Under that hypothesis the factor finder returns a prime divisor of every `1 < n < 2^64`. -/
theorem C12_findPrimeFactor_prime_of_BPSW (fu : Fuel) (hB : BPSWSound fu) (n : Nat) (hn : 1 < n) (hn64 : n < 2 ^ 64)
    (hs : (findPrimeFactor fu Generated.firstPrimes n).stuck = false) :
    Nat.Prime (findPrimeFactor fu Generated.firstPrimes n).val ∧ (findPrimeFactor fu Generated.firstPrimes n).val ∣ n := by
  obtain ⟨h1, _, h3⟩ := C12_findPrimeFactor_spec fu n hn hs
  refine ⟨?_, h1⟩
  rcases h3 with h | h
  · exact h
  · exact hB _ (Nat.lt_of_le_of_lt (Nat.le_of_dvd (by omega) h1) hn64) h

/-- The gcd invariant of Pollard's rho: for EVERY `n > 1`, whenever `find_pollard_rho_factor(n)` returns
within the model's fuel, the value `d` it returns divides `n` and `1 < d ≤ n`; `d < n` is the success
case, `d = n` the documented "failure case". -/
theorem C12_pollardRho_returns_divisor (fu : Fuel) (n : Nat) (hn : 1 < n)
    (hs : (findPollardRhoFactor fu n).stuck = false) :
    (findPollardRhoFactor fu n).val ∣ n ∧ 1 < (findPollardRhoFactor fu n).val ∧ (findPollardRhoFactor fu n).val ≤ n := by
  have hd := findPollardRhoFactor_dvd fu n
  have h1 : (findPollardRhoFactor fu n).val ≠ 1 := (rhoOuter_spec fu n _ _).2 hn hs
  have := Nat.pos_of_dvd_of_pos hd (by omega)
  exact ⟨hd, by omega, Nat.le_of_dvd (by omega) hd⟩

example : findPollardRhoFactor {} (547 * 557) = W.ok 557 ∨ findPollardRhoFactor {} (547 * 557) = W.ok 547 := by decide +kernel

/-- Whatever the trial-division phase returns is the SMALLEST prime factor of `n` (a genuine prime:
no Baillie–PSW hypothesis, the table entries are proved prime and gapless). -/
theorem C12_trialDivision_smallest_prime_factor (n : Nat) (hn : 1 < n) (r : Nat)
    (h : (trialDivision n Generated.firstPrimes).val = some r) : r = Nat.minFac n ∧ Nat.Prime r := by
  have h1 := trialDivision_minFac n hn C12_firstPrimes_primeTable r (trialDivision_val _ _ ▸ h)
  exact ⟨h1, h1 ▸ Nat.minFac_prime (by omega)⟩

/-- Below `541² = 292681` `find_prime_factor` is unconditional: for any fuel it returns exactly the
smallest prime factor, with no wrap, no UB, no fuel exhaustion. -/
theorem C12_findPrimeFactor_exact_below_292681 (fu : Fuel) (n : Nat) (hn : 1 < n) (hlt : n < 292681) :
    findPrimeFactor fu Generated.firstPrimes n = W.ok (Nat.minFac n) :=
  findPrimeFactor_eq_minFac fu _ n hn C12_firstPrimes_primeTable ⟨541, by decide, by omega⟩

example : findPrimeFactor {} Generated.firstPrimes 282943 = W.ok 523 ∧ findPrimeFactor {} Generated.firstPrimes 292667 = W.ok 292667 := by decide +kernel   -- 523 · 541, and a prime just below 541²

/-- `is_prime n ↔ Nat.Prime n` UNCONDITIONALLY for every `n < 2^16` (model with the default fuel), flags
clean: the kernel-evaluated sweep of AuProofs/Lemmas/SmallPrimesCert.lean (what it evaluates is said at the
head of Lemmas/SmallPrimes.lean).  `BPSWSound` is needed only above this bound. -/
theorem C12_isPrime_iff_prime_below_65536 (n : Nat) (h : n < 65536) :
    (isPrime {} n = W.ok true ↔ Nat.Prime n) ∧ (isPrime {} n = W.ok false ↔ ¬ Nat.Prime n) := by
  rw [isPrime_exact_below_65536 n h, ← smallPrime_iff h]
  cases smallPrime n <;> simp

example : isPrime {} 65521 = W.ok true ∧ isPrime {} 2047 = W.ok false ∧ isPrime {} 5459 = W.ok false := by decide +kernel

/-- "For every 64-bit n the primality test answers 'prime' exactly when n is prime": neither proved nor
refuted here.  "Accepted ⇒ prime" is `BPSWSound` (the published exhaustive computation), and "prime ⇒
accepted" needs the theory of the strong Lucas test for primes, which Mathlib does not have.  What is
proved: `C12_isPrime_iff_prime_below_65536` and `C12_isPrime_partial`; the rest is covered by the
correspondence (sieve sweep + adversarial sets). -/
def C12_isPrime_full (fu : Fuel) : Prop :=
  ∀ n : Nat, n < 2 ^ 64 → ((isPrime fu n).val = true ↔ Nat.Prime n)

/-- Guards finding F19: `is_perfect_square` computed `curr * curr` in `uint64_t`, which at the 10th
Newton iterate for this prime wraps to the prime itself, so `is_prime` rejected it.  The number is prime
(Lucas/Pratt certificate with the verified `powMod`), and the model, which follows the fixed code,
accepts it with clean flags. -/
theorem C12_isPrime_regression_F19 :
    Nat.Prime 10785637507345693793 ∧ isPrime {} 10785637507345693793 = W.ok true :=
  ⟨prime_10785637507345693793, by decide +kernel⟩

/-- `is_prime` never accepts `n < 2` nor an even `n > 2`. -/
theorem C12_isPrime_partial (fu : Fuel) (n : Nat) (h : (isPrime fu n).val = true) : 2 ≤ n ∧ (n = 2 ∨ n % 2 = 1) :=
  two_le_and_odd_of_isPrime fu n h

example : (isPrime {} 18446744073709551557).val = true := by decide +kernel

/-- `PrimeFactorization<N>`: for every `N < 2^64`, whenever the model produces a magnitude, its factors
multiply back to `N`, the pack is strictly sorted by base, and every base divides `N` and passed
`Prime<base>`'s `static_assert(is_prime(base))`.  No termination hypothesis: it is about every returned
result. -/
theorem C12_primeFactorization_product (fu : Fuel) (table : List Nat) (N : Nat) (hN : N < 2 ^ 64) (m : NatMag)
    (h : (magOfNat fu table N).val = .mag m) :
    NatMag.value m = N ∧ NatMag.Sorted m ∧ ∀ be ∈ m, (isPrime fu be.1).val = true ∧ be.1 ∣ N :=
  primeFactorization_spec hN h

/-- Below `2^16` the whole factorisation is unconditional: every base of `mag<N>()` is a genuine prime,
the pack is sorted and multiplies back to `N` (exponents ≥ 1 are not stated: they would need a lower bound
for `multiplicity`, which only has the `_dvd` lemmas). -/
theorem C12_mag_canonical_below_65536 (table : List Nat) (N : Nat) (h0 : 0 < N) (hN : N < 65536) (m : NatMag)
    (h : (magOfNat {} table N).val = .mag m) :
    NatMag.value m = N ∧ NatMag.Sorted m ∧ ∀ be ∈ m, Nat.Prime be.1 := by
  refine magOfNat_canonical {} table N h0 (by omega) m h fun r hr hacc => ?_
  have hlt : r < 65536 := by omega
  rw [isPrime_exact_below_65536 r hlt] at hacc
  exact (smallPrime_iff hlt).1 hacc

example : (magOfNat {} Generated.firstPrimes 65520).val = .mag [(2, 4), (3, 2), (5, 1), (7, 1), (13, 1)] := by decide +kernel

/-- Under `BPSWSound` the same holds for every 64-bit `N` for which the model returns a magnitude. -/
theorem C12_mag_canonical_of_BPSW (fu : Fuel) (hB : BPSWSound fu) (table : List Nat) (N : Nat) (h0 : 0 < N) (hN : N < 2 ^ 64)
    (m : NatMag) (h : (magOfNat fu table N).val = .mag m) :
    NatMag.value m = N ∧ NatMag.Sorted m ∧ ∀ be ∈ m, Nat.Prime be.1 :=
  magOfNat_canonical fu table N h0 hN m h fun r hr hacc => hB r (by omega) hacc

/-- `MagProductT` on integer magnitudes multiplies the denoted numbers: the product of `mag<a>()` and
`mag<b>()` denotes `a * b` whenever the factors denote `a` and `b`.  (The identity of the types
`mag<a>()*mag<b>()` and `mag<a*b>()` is checked by the compile probes.) -/
theorem C12_magMul_value (a b : NatMag) : NatMag.value (magMul a b) = NatMag.value a * NatMag.value b := by
  unfold magMul
  induction a generalizing b with
  | nil => simp [NatMag.value]
  | cons h t ih => rw [List.foldl_cons, ih, magInsert_value, NatMag.value_cons, Nat.mul_left_comm, Nat.mul_assoc]

example : magMul [(2, 2), (3, 1)] [(2, 1), (3, 2)] = [(2, 3), (3, 3)] := by decide
example : (magOfNat {} Generated.firstPrimes 360).val = .mag [(2, 3), (3, 2), (5, 1)] := by decide +kernel

/-- `strong_lucas(2^64 - 1)`: `n + 1` wraps to 0 and `decompose(0)` never ends.  Unreachable through
`baillie_psw`, because Miller–Rabin base 2 rejects `2^64 - 1` first: -/
theorem C12_strongLucas_max_stuck : (strongLucas 100 18446744073709551615).stuck = true := by decide +kernel
theorem C12_bailliePSW_max : (bailliePSW 100 18446744073709551615).val = .composite ∧
    (bailliePSW 100 18446744073709551615).stuck = false := by decide +kernel

end Au
