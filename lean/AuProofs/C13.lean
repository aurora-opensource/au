import AuProofs.Lemmas.C13
namespace Au
open IntTy Au.C13

/-! # C13 — Quantity is a zero-overhead transparent wrapper around its rep

First the layout facts of `Quantity<U, R>` / `QuantityPoint<U, R>` from the class descriptors
(`AuModel.Layout`; the descriptors of the real classes are regenerated into `Generated.Classes`
and shown to satisfy the premises in `AuProofs.Gen.C13`); then the round trip `unit(x).in(unit)` and
the same-unit operators against the built-in operators on the raw values (`AuModel.QuantityOps`), for
every semantics `F` of the floating-point instructions. -/

/-- Shape of `au::Quantity`. -/
def isRepWrapper (d : ClassD) : Bool :=
  (match d.fields with
   | [f] => f.ty == .rep && f.init == .emptyBraces
   | _ => false) &&
  d.bases.isEmpty && d.nVirtualBases == 0 && d.nVirtualFns == 0 &&
  !d.userCopyCtor && !d.userMoveCtor && !d.userCopyAssign && !d.userMoveAssign && !d.userDtor &&
  (match d.ctors.find? (fun c => c.params == []) with
   | some c => c.kind == .defaulted
   | none => false)

/-- The `Zero` constructor is user-provided and initialises the one `Rep` member with `{0}` or `{}`. -/
def zeroCtorZeroes (q : ClassD) : Bool :=
  match q.fields, q.ctors.find? (fun c => c.params == [.zero]) with
  | [g], some z =>
    z.kind == .userProvided && g.ty == .rep &&
      (effectiveInit z.inits g == .intLit 0 || effectiveInit z.inits g == .emptyBraces)
  | _, _ => false

/-- Shape of `au::QuantityPoint`, `c` the class of its member. -/
def isWrapperOf (d : ClassD) (c : String) : Bool :=
  (match d.fields with
   | [f] =>
     f.ty == .cls c &&
     (match d.ctors.find? (fun k => k.params == []) with
      | some k => k.kind == .userProvided && effectiveInit k.inits f == .zeroConst
      | none => false)
   | _ => false) &&
  d.bases.isEmpty && d.nVirtualBases == 0 && d.nVirtualFns == 0 &&
  !d.userCopyCtor && !d.userMoveCtor && !d.userCopyAssign && !d.userMoveAssign && !d.userDtor

theorem isRepWrapper_shape {d : ClassD} (h : isRepWrapper d = true) :
    Plain d ∧ ∃ f c, d.fields = [f] ∧ f.ty = .rep ∧ f.init = .emptyBraces ∧
      d.ctors.find? (fun c => c.params == []) = some c ∧ c.kind = .defaulted := by
  simp only [isRepWrapper, Bool.and_eq_true, Bool.not_eq_true', beq_iff_eq, List.isEmpty_iff, and_assoc] at h
  obtain ⟨hf, hb, hvb, hvf, hcc, hmc, hca, hma, hdt, hct⟩ := h
  refine ⟨⟨hb, hvb, hvf, hcc, hmc, hca, hma, hdt⟩, ?_⟩
  cases hfs : d.fields with
  | nil => rw [hfs] at hf; cases hf
  | cons f fs =>
    cases fs with
    | cons g gs => rw [hfs] at hf; cases hf
    | nil =>
      cases hfind : d.ctors.find? (fun c => c.params == []) with
      | none => rw [hfind] at hct; cases hct
      | some c =>
        simp only [hfs, hfind, Bool.and_eq_true, beq_iff_eq] at hf hct
        exact ⟨f, c, rfl, hf.1, hf.2, rfl, hct⟩

theorem isWrapperOf_shape {d : ClassD} {c : String} (h : isWrapperOf d c = true) :
    Plain d ∧ ∃ f k, d.fields = [f] ∧ f.ty = .cls c ∧
      d.ctors.find? (fun k => k.params == []) = some k ∧ k.kind = .userProvided ∧
      effectiveInit k.inits f = .zeroConst := by
  simp only [isWrapperOf, Bool.and_eq_true, Bool.not_eq_true', beq_iff_eq, List.isEmpty_iff, and_assoc] at h
  obtain ⟨hf, hplain⟩ := h
  refine ⟨hplain, ?_⟩
  cases hfs : d.fields with
  | nil => rw [hfs] at hf; cases hf
  | cons f fs =>
    cases fs with
    | cons g gs => rw [hfs] at hf; cases hf
    | nil =>
      cases hfind : d.ctors.find? (fun k => k.params == []) with
      | none => simp only [hfs, hfind, Bool.and_false, Bool.false_eq_true] at hf
      | some k =>
        simp only [hfs, hfind, Bool.and_eq_true, beq_iff_eq] at hf
        exact ⟨f, k, rfl, hf.1, rfl, hf.2.1, hf.2.2⟩

theorem repWrapper_facts (env : ClassEnv) (d : ClassD) (h : isRepWrapper d = true)
    (R : RepTy) (hR : R ∈ RepTy.all) (n : Nat) : factsAt env (n + 1) d R = transparentFacts R := by
  obtain ⟨hp, f, c, hf, hty, hinit, hfind, hkind⟩ := isRepWrapper_shape h
  -- the defaulted default constructor applies the member's initialiser `{}`: value-initialisation
  have hdflt : defaultContent env (n + 1) d = .zero := by
    simp only [defaultContent, ctorContent, hfind, hkind, hf, hty, hinit, effectiveInit, List.map,
      Content.all, Content.and]
    rfl
  exact factsAt_rep_member env hp hf hty hR n hdflt

theorem zeroCtor_content (env : ClassEnv) (q : ClassD) (h : zeroCtorZeroes q = true) (n : Nat) :
    ctorContent env (n + 1) q [.zero] = .zero := by
  unfold zeroCtorZeroes at h
  split at h
  case h_2 => cases h
  case h_1 g z hg hz =>
    simp only [Bool.and_eq_true, beq_iff_eq, Bool.or_eq_true] at h
    obtain ⟨⟨hk, hty⟩, hi⟩ := h
    -- the member's initialiser in the `Zero` constructor is `{0}` or `{}`
    rcases hi with hi | hi <;> simp [ctorContent, hg, hz, hk, hty, hi, Content.all, Content.and]

theorem wrapperOf_facts (env : ClassEnv) (d q : ClassD) (c : String) (hq : env.find c = some q)
    (h : isWrapperOf d c = true) (R : RepTy) (hR : R ∈ RepTy.all) (n : Nat)
    (hfacts : factsAt env n q R = transparentFacts R) (hzero : ctorContent env n q [.zero] = .zero) :
    factsAt env (n + 1) d R = transparentFacts R := by
  obtain ⟨hp, f, k, hf, hty, hfind, hkind, hinit⟩ := isWrapperOf_shape h
  -- the user-provided default constructor initialises the member with `{ZERO}`
  have hdflt : defaultContent env (n + 1) d = .zero := by
    simp only [defaultContent, ctorContent, hfind, hkind, hf, hty, hinit, hq, hzero, List.map,
      Content.all, Content.and]
  exact factsAt_cls_member env hp hf hty hq hR n hfacts hdflt

/-- **C13 (layout, Quantity).**  Whatever its other constructors, member functions and static members,
a class of the shape `isRepWrapper` is laid out as its rep, for each of the 11 arithmetic reps, and a
default-initialised object holds `R{}`. -/
theorem C13_layout_quantity (env : ClassEnv) (d : ClassD) (h : isRepWrapper d = true)
    (R : RepTy) (hR : R ∈ RepTy.all) :
    classFacts env d R = transparentFacts R :=
  -- `classFacts` is `factsAt` at `layoutFuel = 4`
  repWrapper_facts env d h R hR 3

/-- **C13 (layout, QuantityPoint).**  The same for a class wrapping one such class `c` whose `Zero`
constructor zeroes: its default constructor initialises the member with `{ZERO}`. -/
theorem C13_layout_point (env : ClassEnv) (d q : ClassD) (c : String)
    (hq : env.find c = some q) (hqs : isRepWrapper q = true) (hz : zeroCtorZeroes q = true)
    (h : isWrapperOf d c = true) (R : RepTy) (hR : R ∈ RepTy.all) :
    classFacts env d R = transparentFacts R :=
  -- the wrapper at `layoutFuel = 4`, its member at one less
  wrapperOf_facts env d q c hq h R hR 3 (repWrapper_facts env q hqs R hR 2) (zeroCtor_content env q hz 2)

/-- Sensitivity (non-vacuity of the shape premise): a second data member, or a virtual function,
or a user-provided copy constructor changes the facts. -/
example :
    let q : ClassD := ⟨"Q", [⟨"value_", .rep, .priv, .emptyBraces⟩], [], 0, 0, false, false, false, false, false,
      [⟨[], .defaulted, []⟩]⟩
    isRepWrapper q = true ∧
    classFacts [] q (.int i32) = transparentFacts (.int i32) ∧
    (classFacts [] { q with fields := q.fields ++ [⟨"extra", .rep, .priv, .emptyBraces⟩] } (.int i32)).layout
      = some ⟨8, 4⟩ ∧
    (classFacts [] { q with nVirtualFns := 1 } (.int i32)).layout = none ∧
    (classFacts [] { q with userCopyCtor := true } (.int i32)).trivCopy = false ∧
    (classFacts [] { q with fields := [⟨"value_", .rep, .priv, .absent⟩] } (.int i32)).dflt = .indeterminate := by
  decide

/-- **C13 (round trip).**  `unit(x).in(unit)` is the stored value itself, in particular every
floating-point *bit pattern* (NaN payloads, infinities, signed zeros): no arithmetic instruction
touches it. -/
theorem C13_roundtrip (t : RepTy) (x : Val) : qRoundTrip t x = x := rfl

/-- **Round trip on floating bit patterns, spelled out** for the three floating reps (signalling
NaNs, both zeros, denormals included); no instruction of `F` is involved: `qRoundTrip` does not take
`F`. -/
theorem C13_roundtrip_float_bits (k : FltK) (bits : Nat) :
    qRoundTrip (.flt k) (.flt bits) = .flt bits := rfl

example : qRoundTrip (.flt .f32) (.flt 0x7f812345) = .flt 0x7f812345 ∧            -- signalling NaN with payload
    qRoundTrip (.flt .f32) (.flt 0x80000000) = .flt 0x80000000 ∧                   -- -0.0
    qRoundTrip (.flt .f64) (.flt 0xfff0000000000000) = .flt 0xfff0000000000000 ∧   -- -inf
    qRoundTrip (.flt .f80) (.flt 0x7fffc000000000012345) = .flt 0x7fffc000000000012345 := by decide

/-- `QuantityMaker::operator()` deduces the rep from its argument, so it never narrows: the made
quantity has the argument's type and holds the argument. -/
theorem C13_maker_exact (t : RepTy) (x : Val) : (makeQty t x).rep = t ∧ (makeQty t x).value = x ∧
    narrows t t = false :=
  ⟨rfl, rfl, narrows_self t⟩

/-- The point round trip `unit_pt(x).in(unit_pt)` is *not* the identity function of the source: it
computes `(x + 0) * 1` in the promoted type and converts back. -/
theorem C13_point_roundtrip_flt_shape (F : FOps) (k : FltK) (x : Nat) :
    ptRoundTrip F (.flt k) (.flt x) =
      .ok (.flt (F.bin k .mul (F.bin k .add x (F.ofInt k i32 0)) (F.ofInt k i32 1))) := by
  simp [ptRoundTrip, qAddSub, viaMake, zeroOf, rawArith_flt, arithIn, evBind, convert_self]

/-- For integral reps the point round trip is exact and UB-free on every in-range value. -/
theorem C13_point_roundtrip_int (F : FOps) (t : IntTy) (ht : t ∈ IntTy.all) (x : Int)
    (hx : t.inRange x) : ptRoundTrip F (.int t) (.int x) = .ok (.int x) := by
  have hxp := promote_inRange t ht x hx
  have h0 : t.inRange 0 := ⟨lo_nonpos t ht, hi_nonneg t ht⟩
  have hadd := rawArith_int_exact F ht hx h0 (.inl ⟨rfl, (Int.add_zero x).symm⟩) hxp
  simp only [ptRoundTrip, qAddSub, viaMake, zeroOf, hadd, evBind]
  rw [arithIn_exact F (promote_mem t ht) (.inr (.inr ⟨rfl, (Int.mul_one x).symm⟩)) hxp]
  exact convert_int_inRange F _ t ht x hx

/-- **The operator clause as the property states it**: wherever the library offers the operator, both
compiler families accept it and it has the result type and the value (or the undefined behaviour) of
the built-in operator on the raw values. -/
def C13_ops_match_raw_full : Prop :=
  ∀ (F : FOps) (o : OpName) (R T : RepTy) (a b : Val) (u : Bool),
    R ∈ RepTy.all → T ∈ RepTy.all → offered o R T u = true → qOp F o R T a b u = rawOp F o R T a b

/-- A dummy `FOps` for the `decide` examples. -/
def trivialF : FOps := ⟨fun _ _ _ _ => 0, fun _ _ _ _ => false, fun _ _ => 0, fun _ _ _ => 0, fun _ _ _ => 0⟩

/-- **Finding F4**: the full statement is false on the code.  `-q` for `q = int8_t(-128)`: the
built-in operator yields the `int` 128; the Quantity operator has result rep `int8_t`, holds -128,
and its braced return is a narrowing conversion that clang++ rejects. -/
theorem C13_ops_match_raw_counterexample : ¬ C13_ops_match_raw_full := by
  intro h
  have := h trivialF (.un .neg) (.int i8) (.int i8) (.int (-128)) (.int 0) false (by decide) (by decide) (by decide)
  revert this
  decide

/-- **C13 (operators, everything outside F4).**  The clause holds outside `%`, unary `+`, unary `-` on
reps narrower than `int`: for all 11×11 rep pairs, all values, any floating-point semantics. -/
theorem C13_ops_match_raw_partial (F : FOps) (o : OpName) (R T : RepTy) (a b : Val) (u : Bool)
    (hoff : offered o R T u = true) (hF4 : inF4 o R = false) :
    qOp F o R T a b u = rawOp F o R T a b := by
  cases o with
  | cmp c => rfl
  | addsub c => rfl
  | addsubAs c => rfl
  | scalarR c => rfl
  | mulL => rfl
  | scaleAs c =>
    simp only [offered] at hoff
    simp [qOp, rawOp, qScaleAssign, hoff]
  | divL =>
    simp only [offered, Bool.not_eq_true'] at hoff
    simp [qOp, rawOp, qScalarLeftDiv, viaMake, hoff]
  | mod => exact qOp_listInit_outside F .mod (.inl rfl) R T a b u hF4
  | un w => exact qOp_listInit_outside F (.un w) (.inr ⟨w, rfl⟩) R T a b u hF4

/-- Non-vacuity of the partial theorem: an offered operator outside F4 with a non-trivial result
(`uint8_t 200 * int8_t -3`: computed in `int`, no wrap, result rep `int`). -/
example : offered (.scalarR .mul) (.int u8) (.int i8) false = true ∧ inF4 (.scalarR .mul) (.int u8) = false ∧
    qOp trivialF (.scalarR .mul) (.int u8) (.int i8) (.int 200) (.int (-3)) false
      = ⟨Verdict.ok, some (.val (.int i32)), .ok (.int (-600))⟩ := by decide

/-- The gates really reject (the `offered` premise is not vacuous either way). -/
example : offered (.scaleAs .mul) (.int i32) (.flt .f64) false = false ∧
    qOp trivialF (.scaleAs .mul) (.int i32) (.flt .f64) (.int 1) (.flt 0) false = OpResult.illFormed ∧
    offered .divL (.int i32) (.int i32) false = false ∧ offered .divL (.int i32) (.int i32) true = true ∧
    offered .divL (.int i32) (.flt .f32) false = true := by decide

/-- **C13 (F4, exact characterisation).**  Inside F4 the built-in result has type `int`, the Quantity
result rep `R`: the braced return narrows (`int` → `R`), which clang++ rejects and g++ accepts with a
warning, and where it is accepted the stored value is the built-in result converted to `R`. -/
theorem C13_F4_characterisation (F : FOps) (o : OpName) (t : IntTy) (ht : t ∈ IntTy.all)
    (hF4 : inF4 o (.int t) = true) (a b : Val) (u : Bool) :
    (rawOp F o (.int t) (.int t) a b).ty = some (.val (.int i32)) ∧
    (rawOp F o (.int t) (.int t) a b).verdict = Verdict.ok ∧
    (qOp F o (.int t) (.int t) a b u).ty = some (.val (.int t)) ∧
    (qOp F o (.int t) (.int t) a b u).verdict = Verdict.narrowing ∧
    (qOp F o (.int t) (.int t) a b u).val =
      evBind (rawOp F o (.int t) (.int t) a b).val (convert F (.int i32) (.int t)) := by
  obtain ⟨ho, _, ht', hlt⟩ := (inF4_iff o (.int t)).1 hF4
  cases ht'
  have hn : narrows (.int i32) (.int t) = true := by
    have := subint_range t ht hlt
    have : i32.hi = 2147483647 := by decide
    simp only [narrows, Bool.not_eq_true', Bool.and_eq_false_iff, decide_eq_false_iff_not]
    omega
  obtain ⟨hq, hr | ⟨hi, _⟩⟩ := qOp_listInit F o ho (.int t) (.int t) a b u
  · rw [show (RepTy.int t).promote = .int i32 from congrArg RepTy.int (promote_of_lt32 t hlt)] at hr
    rw [hq, hr, viaListInit_eq, hn]
    exact ⟨rfl, rfl, rfl, rfl, rfl⟩
  · cases hi

/-! What the built-in result of `C13_ops_match_raw_partial` *is* in the model: the result type of every
operator, and the value in closed form.

Where the operator's body is `make_quantity<U>(a.value_ ∘ b.value_)` or `value_ ∘= …`, `qOp` *is* the
built-in operator on the stored values by definition, so the lemmas of `AuProofs.Lemmas.C13` about
`rawArith` / `rawAssign` on two operands of one type prove the clause as they stand.  For `%` and the
unary operators the first step is `C13_ops_match_raw_partial`; a rep of at least 32 bits, like a
floating rep, is its own promotion, so the built-in operator converts nothing.  For the operators on
two quantities of one type (`OpName.sameType`) `qOp` ignores the scalar type `T` and the flag `u`, by
`rfl`. -/

/-- **Result types** (`decltype` of the expression) of the comparisons, `±`, `±=`, and the scalar `*` `/`
and `*=` `/=`, all 11×11 rep pairs; each is accepted by both compiler families.  (`%` and the unary
operators: `C13_mod_int`, `C13_unary_int`, `C13_unary_flt` outside F4, `C13_F4_characterisation` inside.) -/
theorem C13_result_types (F : FOps) (R T : RepTy) (a b : Val) (u : Bool) :
    (∀ c, (qOp F (.cmp c) R T a b u).ty = some .bool ∧ (qOp F (.cmp c) R T a b u).verdict = Verdict.ok) ∧
    (∀ op, op = ArOp.add ∨ op = ArOp.sub →
      (qOp F (.addsub op) R T a b u).ty = some (.val (RepTy.uac R R)) ∧
      (qOp F (.addsub op) R T a b u).verdict = Verdict.ok ∧
      (qOp F (.addsubAs op) R T a b u).ty = some (.ref R) ∧
      (qOp F (.addsubAs op) R T a b u).verdict = Verdict.ok) ∧
    (∀ op, op = ArOp.mul ∨ op = ArOp.div →
      (qOp F (.scalarR op) R T a b u).ty = some (.val (RepTy.uac R T)) ∧
      (qOp F (.scalarR op) R T a b u).verdict = Verdict.ok ∧
      (offered (.scaleAs op) R T u = true →
        (qOp F (.scaleAs op) R T a b u).ty = some (.ref R) ∧ (qOp F (.scaleAs op) R T a b u).verdict = Verdict.ok)) ∧
    ((qOp F .mulL R T a b u).ty = some (.val (RepTy.uac T R)) ∧ (qOp F .mulL R T a b u).verdict = Verdict.ok) ∧
    (offered .divL R T u = true →
      (qOp F .divL R T a b u).ty = some (.val (RepTy.uac T R)) ∧ (qOp F .divL R T a b u).verdict = Verdict.ok) := by
  refine ⟨fun c => ⟨rfl, rfl⟩, ?_, ?_, ?_, ?_⟩
  · intro op hop
    rcases hop with rfl | rfl <;>
      simp [qOp, qAddSub, qAddSubAssign, viaMake, rawAssign, rawArith, Verdict.ok]
  · intro op hop
    rcases hop with rfl | rfl <;>
      (refine ⟨by simp [qOp, qScalarRight, viaMake, rawArith], by simp [qOp, qScalarRight, viaMake, rawArith], ?_⟩
       intro hoff
       simp only [offered] at hoff
       simp [qOp, qScaleAssign, hoff, rawAssign, rawArith, Verdict.ok])
  · simp [qOp, qScalarLeftMul, viaMake, rawArith]
  · intro hoff
    simp only [offered, Bool.not_eq_true'] at hoff
    simp [qOp, qScalarLeftDiv, hoff, viaMake, rawArith]

/-- `decltype(R + R)` is `int` for the four narrow reps and `R` itself otherwise. -/
theorem C13_addsub_type_explicit (R : RepTy) (hR : R ∈ RepTy.all) : RepTy.uac R R = R.promote := by
  cases R <;> simp [RepTy.uac, RepTy.promote, uac_self]

/-- **Same-unit `+` / `-`, integral reps**: exact, of the promoted rep, whenever the result fits it
(always for the narrow reps: `C13_subint_addsub_exact`). -/
theorem C13_addsub_exact (F : FOps) (op : ArOp) (t : IntTy) (ht : t ∈ IntTy.all) (a b r : Int)
    (ha : t.inRange a) (hb : t.inRange b)
    (hop : (op = .add ∧ r = a + b) ∨ (op = .sub ∧ r = a - b)) (hr : t.promote.inRange r) (u : Bool) :
    qOp F (.addsub op) (.int t) (.int t) (.int a) (.int b) u
      = ⟨Verdict.ok, some (.val (.int t.promote)), .ok (.int r)⟩ := by
  exact rawArith_int_exact F ht ha hb (hop.imp_right .inl) hr

example : i32 ∈ IntTy.all ∧ i32.inRange 2147483647 ∧ i32.promote.inRange (2147483647 - 1) ∧
    qOp trivialF (.addsub .sub) (.int i32) (.int i32) (.int 2147483647) (.int 1) false
      = ⟨Verdict.ok, some (.val (.int i32)), .ok (.int 2147483646)⟩ ∧
    -- and outside the premise the model reports the undefined behaviour of the built-in operator
    (qOp trivialF (.addsub .add) (.int i32) (.int i32) (.int 2147483647) (.int 1) false).val
      = .ub "signed overflow in addition" := by decide

/-- What the transparency buys for narrow reps: `a + b` / `a - b` of two `Quantity<U, R>` with `R`
narrower than `int` never overflows or wraps — the result rep is `int` and holds the exact sum. -/
theorem C13_subint_addsub_exact (F : FOps) (t : IntTy) (ht : t ∈ IntTy.all) (h : t.bits < 32)
    (a b : Int) (ha : t.inRange a) (hb : t.inRange b) :
    qOp F (.addsub .add) (.int t) (.int t) (.int a) (.int b) false
      = ⟨Verdict.ok, some (.val (.int i32)), .ok (.int (a + b))⟩ ∧
    qOp F (.addsub .sub) (.int t) (.int t) (.int a) (.int b) false
      = ⟨Verdict.ok, some (.val (.int i32)), .ok (.int (a - b))⟩ := by
  have hr := subint_addsub_inRange t ht h a b ha hb
  rw [← promote_of_lt32 t h] at hr ⊢
  exact ⟨rawArith_int_exact F ht ha hb (.inl ⟨rfl, rfl⟩) hr.1,
    rawArith_int_exact F ht ha hb (.inr (.inl ⟨rfl, rfl⟩)) hr.2⟩

/-- Non-vacuity: the extreme operands of `int8_t`. -/
example : i8 ∈ IntTy.all ∧ i8.bits < 32 ∧ i8.inRange (-128) ∧
    qOp trivialF (.addsub .add) (.int i8) (.int i8) (.int (-128)) (.int (-128)) false
      = ⟨Verdict.ok, some (.val (.int i32)), .ok (.int (-256))⟩ := by decide

/-- **Same-unit `+` / `-`, floating reps**: one `F` instruction on the stored bit patterns. -/
theorem C13_addsub_flt (F : FOps) (op : ArOp) (hop : op = .add ∨ op = .sub) (k : FltK) (x y : Nat) (u : Bool) :
    qOp F (.addsub op) (.flt k) (.flt k) (.flt x) (.flt y) u
      = ⟨Verdict.ok, some (.val (.flt k)), .ok (.flt (F.bin k op x y))⟩ := by
  exact rawArith_flt F (by rcases hop with rfl | rfl <;> decide) k x y

/-- **Same-unit `%`, integral reps of at least 32 bits** (outside F4): the remainder of truncated
division, of rep `R`, away from a zero divisor and from (lowest, −1). -/
theorem C13_mod_int (F : FOps) (t : IntTy) (_ht : t ∈ IntTy.all) (h32 : ¬ t.bits < 32) (a b : Int)
    (hb0 : b ≠ 0) (h : ¬ (a = t.lo ∧ b = -1)) (u : Bool) :
    qOp F .mod (.int t) (.int t) (.int a) (.int b) u
      = ⟨Verdict.ok, some (.val (.int t)), .ok (.int (Int.tmod a b))⟩ := by
  have hF4 : inF4 .mod (.int t) = false := by simp [inF4, h32]
  rw [C13_ops_match_raw_partial F .mod (.int t) (.int t) (.int a) (.int b) u rfl hF4]
  simp [rawOp, rawArith, RepTy.isIntegral, RepTy.uac, uac_self, promote_of_ge32 t h32, convert_self, evBind,
    arithIn, stepVal, modIn_ok t a b hb0 h, Verdict.ok]

/-- **Unary `+` / `-`, integral reps of at least 32 bits** (outside F4): `+q` holds the same value,
`-q` holds `-a` whenever that is representable. -/
theorem C13_unary_int (F : FOps) (t : IntTy) (ht : t ∈ IntTy.all) (h32 : ¬ t.bits < 32) (a : Int) (b : Val) (u : Bool) :
    qOp F (.un .pos) (.int t) (.int t) (.int a) b u = ⟨Verdict.ok, some (.val (.int t)), .ok (.int a)⟩ ∧
    (t.inRange (-a) →
      qOp F (.un .neg) (.int t) (.int t) (.int a) b u = ⟨Verdict.ok, some (.val (.int t)), .ok (.int (-a))⟩) := by
  have hF4 : ∀ w, inF4 (.un w) (.int t) = false := by intro w; simp [inF4, h32]
  constructor
  · rw [C13_ops_match_raw_partial F (.un .pos) (.int t) (.int t) (.int a) b u rfl (hF4 _)]
    simp [rawOp, rawUnary, RepTy.promote, promote_of_ge32 t h32, convert_self, evBind, Verdict.ok]
  · intro hr
    rw [C13_ops_match_raw_partial F (.un .neg) (.int t) (.int t) (.int a) b u rfl (hF4 _)]
    simp [rawOp, rawUnary, RepTy.promote, promote_of_ge32 t h32, convert_self, evBind, stepVal, negIn_ok t ht a hr, Verdict.ok]

/-- **Unary `+` / `-`, floating reps**: `+q` returns the stored bit pattern unchanged (no instruction
at all: NaN payloads and signed zeros survive), `-q` is one negation instruction of `F`. -/
theorem C13_unary_flt (F : FOps) (k : FltK) (x : Nat) (b : Val) (u : Bool) :
    qOp F (.un .pos) (.flt k) (.flt k) (.flt x) b u = ⟨Verdict.ok, some (.val (.flt k)), .ok (.flt x)⟩ ∧
    qOp F (.un .neg) (.flt k) (.flt k) (.flt x) b u = ⟨Verdict.ok, some (.val (.flt k)), .ok (.flt (F.neg k x))⟩ := by
  constructor <;> rw [C13_ops_match_raw_partial F _ _ _ _ b u rfl rfl] <;>
    simp [rawOp, rawUnary, RepTy.promote, convert_self, evBind, Verdict.ok]

example : u32 ∈ IntTy.all ∧ ¬ u32.bits < 32 ∧
    qOp trivialF .mod (.int i64) (.int i64) (.int (-7)) (.int 3) false = ⟨Verdict.ok, some (.val (.int i64)), .ok (.int (-1))⟩ ∧
    qOp trivialF (.un .neg) (.int u32) (.int u32) (.int 1) (.int 0) false
      = ⟨Verdict.ok, some (.val (.int u32)), .ok (.int 4294967295)⟩ ∧
    qOp trivialF (.un .pos) (.flt .f32) (.flt .f32) (.flt 0x7f812345) (.flt 0) false
      = ⟨Verdict.ok, some (.val (.flt .f32)), .ok (.flt 0x7f812345)⟩ := by decide

/-- **`+=` / `-=`, integral reps, result representable**: exact, no undefined behaviour; the result is
the lvalue itself. -/
theorem C13_addsub_assign_exact (F : FOps) (op : ArOp) (t : IntTy) (ht : t ∈ IntTy.all) (a b r : Int)
    (ha : t.inRange a) (hb : t.inRange b)
    (hop : (op = .add ∧ r = a + b) ∨ (op = .sub ∧ r = a - b)) (hr : t.inRange r) (u : Bool) :
    qOp F (.addsubAs op) (.int t) (.int t) (.int a) (.int b) u
      = ⟨Verdict.ok, some (.ref (.int t)), .ok (.int r)⟩ := by
  exact rawAssign_int_of_inRange F ht hr
    (rawArith_int_exact F ht ha hb (hop.imp_right .inl) (promote_inRange t ht r hr))

/-- **`+=` / `-=` on the narrow reps never has undefined behaviour**: the sum is formed in `int` and
converted back to `R` (modular), exactly as the built-in compound assignment does. -/
theorem C13_addsub_assign_subint (F : FOps) (t : IntTy) (ht : t ∈ IntTy.all) (h : t.bits < 32)
    (a b : Int) (ha : t.inRange a) (hb : t.inRange b) (u : Bool) :
    qOp F (.addsubAs .add) (.int t) (.int t) (.int a) (.int b) u
      = ⟨Verdict.ok, some (.ref (.int t)), .ok (.int (t.wrap (a + b)))⟩ ∧
    qOp F (.addsubAs .sub) (.int t) (.int t) (.int a) (.int b) u
      = ⟨Verdict.ok, some (.ref (.int t)), .ok (.int (t.wrap (a - b)))⟩ := by
  have hr := subint_addsub_inRange t ht h a b ha hb
  rw [← promote_of_lt32 t h] at hr
  exact ⟨rawAssign_int F ht hr.1 (rawArith_int_exact F ht ha hb (.inl ⟨rfl, rfl⟩) hr.1),
    rawAssign_int F ht hr.2 (rawArith_int_exact F ht ha hb (.inr (.inl ⟨rfl, rfl⟩)) hr.2)⟩

example : qOp trivialF (.addsubAs .add) (.int u8) (.int u8) (.int 200) (.int 100) false
    = ⟨Verdict.ok, some (.ref (.int u8)), .ok (.int 44)⟩ := by decide

/-- **`+=` / `-=`, floating reps**: one `F` instruction on the stored bit patterns, stored back
without conversion. -/
theorem C13_addsub_assign_flt (F : FOps) (op : ArOp) (hop : op = .add ∨ op = .sub) (k : FltK) (x y : Nat) (u : Bool) :
    qOp F (.addsubAs op) (.flt k) (.flt k) (.flt x) (.flt y) u
      = ⟨Verdict.ok, some (.ref (.flt k)), .ok (.flt (F.bin k op x y))⟩ := by
  exact rawAssign_flt F (by rcases hop with rfl | rfl <;> decide) k x y

/-- **Scalar `*` in both operand orders and `*=`, one integral type**: the exact product whenever it
fits the promoted rep (for `*=`: fits `R`, which it keeps). -/
theorem C13_scalar_mul_exact (F : FOps) (t : IntTy) (ht : t ∈ IntTy.all) (a s : Int)
    (ha : t.inRange a) (hs : t.inRange s) (hr : t.promote.inRange (a * s)) (u : Bool) :
    qOp F (.scalarR .mul) (.int t) (.int t) (.int a) (.int s) u
      = ⟨Verdict.ok, some (.val (.int t.promote)), .ok (.int (a * s))⟩ ∧
    qOp F .mulL (.int t) (.int t) (.int a) (.int s) u
      = ⟨Verdict.ok, some (.val (.int t.promote)), .ok (.int (a * s))⟩ ∧
    (t.inRange (a * s) →
      qOp F (.scaleAs .mul) (.int t) (.int t) (.int a) (.int s) u
        = ⟨Verdict.ok, some (.ref (.int t)), .ok (.int (a * s))⟩) := by
  have h1 := rawArith_int_exact F ht ha hs (.inr (.inr ⟨rfl, rfl⟩)) hr
  refine ⟨h1, ?_, fun hfit => ?_⟩
  · rw [Int.mul_comm a s] at hr ⊢
    exact rawArith_int_exact F ht hs ha (.inr (.inr ⟨rfl, rfl⟩)) hr
  · exact rawAssign_int_of_inRange F ht hfit h1

/-- **`s * q = q * s` for all 8×8 pairs of integral reps** (type and value, including the undefined
cases): the left-hand scalar overload is not a different operation. -/
theorem C13_scalar_mul_comm_int (F : FOps) (tr ts : IntTy) (hr : tr ∈ IntTy.all) (hs : ts ∈ IntTy.all)
    (a s : Int) (u : Bool) :
    qOp F .mulL (.int tr) (.int ts) (.int a) (.int s) u
      = qOp F (.scalarR .mul) (.int tr) (.int ts) (.int a) (.int s) u := by
  -- the common type does not depend on the operand order, a conversion between integral types
  -- yields an integer, and the product of the two converted operands commutes
  have hc := uac_comm ts tr hs hr
  simp only [qOp, qScalarLeftMul, qScalarRight, viaMake, rawArith, RepTy.uac, hc]
  have hmod : ¬ (ArOp.mul = ArOp.mod) := by decide
  simp only [hmod, false_and, if_false]
  have conv : ∀ (t : IntTy) (x : Int), ∃ y, convert F (.int t) (.int (IntTy.uac tr ts)) (.int x) = .ok (.int y) := by
    intro t x
    unfold convert
    split
    · exact ⟨x, rfl⟩
    · exact ⟨_, rfl⟩
  obtain ⟨a', ha'⟩ := conv tr a
  obtain ⟨s', hs'⟩ := conv ts s
  simp only [ha', hs', evBind, arithIn, mulIn, Int.mul_comm s' a']

example : qOp trivialF .mulL (.int i8) (.int u32) (.int (-1)) (.int 2) false
    = ⟨Verdict.ok, some (.val (.int u32)), .ok (.int 4294967294)⟩ := by decide

/-- **`q / s` and `/=`, one integral type**: the truncated quotient, away from a zero divisor and from
(lowest value of the promoted type, −1); of the promoted rep for `q / s`, of rep `R` for `q /= s`. -/
theorem C13_scalar_div_int (F : FOps) (t : IntTy) (ht : t ∈ IntTy.all) (a s : Int)
    (ha : t.inRange a) (hs : t.inRange s) (hs0 : s ≠ 0) (h : ¬ (a = t.promote.lo ∧ s = -1)) (u : Bool) :
    qOp F (.scalarR .div) (.int t) (.int t) (.int a) (.int s) u
      = ⟨Verdict.ok, some (.val (.int t.promote)), .ok (.int (Int.tdiv a s))⟩ ∧
    (t.inRange (Int.tdiv a s) →
      qOp F (.scaleAs .div) (.int t) (.int t) (.int a) (.int s) u
        = ⟨Verdict.ok, some (.ref (.int t)), .ok (.int (Int.tdiv a s))⟩) := by
  have h1 := rawArith_int F (op := .div) ht ha hs
  simp only [arithIn, stepVal, divIn_ok t.promote a s hs0 h] at h1
  exact ⟨h1, fun hfit => rawAssign_int_of_inRange F ht hfit h1⟩

/-- Division by a zero scalar is undefined behaviour in the Quantity operator exactly as in the
built-in one (it is not turned into anything else). -/
theorem C13_scalar_div_zero (F : FOps) (t : IntTy) (ht : t ∈ IntTy.all) (a : Int) (ha : t.inRange a) (u : Bool) :
    (qOp F (.scalarR .div) (.int t) (.int t) (.int a) (.int 0) u).val = .ub "division by zero" := by
  show (rawArith F .div (.int t) (.int t) (.int a) (.int 0)).val = _
  rw [rawArith_int F ht ha ⟨lo_nonpos t ht, hi_nonneg t ht⟩]
  rfl

example : i8 ∈ IntTy.all ∧ i8.inRange (-128) ∧ i8.inRange (-1) ∧ ¬ ((-128 : Int) = i8.promote.lo ∧ (-1 : Int) = -1) ∧
    qOp trivialF (.scalarR .div) (.int i8) (.int i8) (.int (-128)) (.int (-1)) false
      = ⟨Verdict.ok, some (.val (.int i32)), .ok (.int 128)⟩ ∧
    qOp trivialF (.scaleAs .div) (.int i8) (.int i8) (.int (-128)) (.int (-1)) false
      = ⟨Verdict.ok, some (.ref (.int i8)), .ok (.int (-128))⟩ := by decide

/-- **Scalar `* /` in both operand orders and `*= /=`, floating reps (same type)**: one `F`
instruction on the bit patterns, operands in source order, no conversion. -/
theorem C13_scalar_flt (F : FOps) (op : ArOp) (hop : op = .mul ∨ op = .div) (k : FltK) (x s : Nat) (u : Bool) :
    qOp F (.scalarR op) (.flt k) (.flt k) (.flt x) (.flt s) u
      = ⟨Verdict.ok, some (.val (.flt k)), .ok (.flt (F.bin k op x s))⟩ ∧
    qOp F (.scaleAs op) (.flt k) (.flt k) (.flt x) (.flt s) u
      = ⟨Verdict.ok, some (.ref (.flt k)), .ok (.flt (F.bin k op x s))⟩ ∧
    qOp F .mulL (.flt k) (.flt k) (.flt x) (.flt s) u
      = ⟨Verdict.ok, some (.val (.flt k)), .ok (.flt (F.bin k .mul s x))⟩ ∧
    qOp F .divL (.flt k) (.flt k) (.flt x) (.flt s) u
      = ⟨Verdict.ok, some (.val (.flt k)), .ok (.flt (F.bin k .div s x))⟩ := by
  have hne : op ≠ .mod := by rcases hop with rfl | rfl <;> decide
  exact ⟨rawArith_flt F hne k x s, rawAssign_flt F hne k x s,
    rawArith_flt F (op := .mul) (by decide) k s x, rawArith_flt F (op := .div) (by decide) k s x⟩

theorem cmpInt_spec (a b : Int) :
    (cmpInt .eq a b = true ↔ a = b) ∧ (cmpInt .ne a b = true ↔ a ≠ b) ∧ (cmpInt .lt a b = true ↔ a < b) ∧
    (cmpInt .le a b = true ↔ a ≤ b) ∧ (cmpInt .gt a b = true ↔ b < a) ∧ (cmpInt .ge a b = true ↔ b ≤ a) := by
  simp [cmpInt]

/-- **The six comparisons, integral reps**: the mathematical comparisons of the stored integers
(`cmpInt_spec`), never undefined; promotion preserves the values of the narrow reps. -/
theorem C13_cmp_int (F : FOps) (c : CmpOp) (t : IntTy) (ht : t ∈ IntTy.all) (a b : Int)
    (ha : t.inRange a) (hb : t.inRange b) (u : Bool) :
    qOp F (.cmp c) (.int t) (.int t) (.int a) (.int b) u
      = ⟨Verdict.ok, some .bool, .ok (.bool (cmpInt c a b))⟩ := by
  have hp := promote_mem t ht
  simp only [qOp, qCmp, rawCmp, RepTy.uac, uac_self,
    convert_int_inRange F t t.promote hp a (promote_inRange t ht a ha),
    convert_int_inRange F t t.promote hp b (promote_inRange t ht b hb), evBind, cmpIn]

/-- **The six comparisons, floating reps**: one comparison instruction of `F` on the two stored bit
patterns. -/
theorem C13_cmp_flt (F : FOps) (c : CmpOp) (k : FltK) (x y : Nat) (u : Bool) :
    qOp F (.cmp c) (.flt k) (.flt k) (.flt x) (.flt y) u
      = ⟨Verdict.ok, some .bool, .ok (.bool (F.cmp k c x y))⟩ := by
  simp [qOp, qCmp, rawCmp, RepTy.uac, convert_self, evBind, cmpIn]

example : qOp trivialF (.cmp .lt) (.int u8) (.int u8) (.int 200) (.int 3) false
    = ⟨Verdict.ok, some .bool, .ok (.bool false)⟩ ∧ i8.inRange (-128) ∧
    qOp trivialF (.cmp .le) (.int i8) (.int i8) (.int (-128)) (.int (-128)) false
      = ⟨Verdict.ok, some .bool, .ok (.bool true)⟩ := by decide

end Au
