import AuProofs.C07
import AuProofs.Lemmas.MagRatio
import Mathlib.Data.Nat.Prime.Basic
/-! # C07 at the level of numbers: the common magnitude is the greatest common divisor -/
namespace Au
open Pack

def Mag.PrimeBases (m : Mag) : Prop := ∀ a ∈ m, ∀ p, a.1 = .prime p → Nat.Prime p

theorem prime_dvd_natVal (r : Nat) (hr : Nat.Prime r) : ∀ (q : Mag), Mag.PrimeBases q → r ∣ Mag.natVal q →
    ∃ a ∈ q, a.1 = .prime r
  | [], _, h => by
    have h : r ∣ 1 := h
    exact absurd (Nat.dvd_one.1 h) (Nat.Prime.one_lt hr).ne'
  | a :: t, hp, h => by
    rw [natVal_cons] at h
    rcases (Nat.Prime.dvd_mul hr).1 h with h1 | h2
    · cases hb : a.1 with
      | pi =>
        rw [hb] at h1
        have h1 : r ∣ 1 := h1
        exact absurd (Nat.dvd_one.1 h1) (Nat.Prime.one_lt hr).ne'
      | prime p =>
        rw [hb] at h1
        have hpp := hp a (List.mem_cons_self ..) p hb
        have := Nat.Prime.dvd_of_dvd_pow hr h1
        have heq : r = p := (Nat.prime_dvd_prime_iff_eq hr hpp).1 this
        exact ⟨a, List.mem_cons_self .., by rw [hb, heq]⟩
    · obtain ⟨x, hx, hx1⟩ := prime_dvd_natVal r hr t (fun y hy => hp y (List.mem_cons_of_mem _ hy)) h2
      exact ⟨x, List.mem_cons_of_mem _ hx, hx1⟩

theorem primeBases_div (m c : Mag) (hm : Mag.PrimeBases m) (hc : Mag.PrimeBases c) :
    Mag.PrimeBases (Mag.div m c) :=
  forall_base_mul MagBase.lt_strictTotal (fun c => ∀ p, c = MagBase.prime p → Nat.Prime p) hm
    (forall_base_pow (fun c => ∀ p, c = MagBase.prime p → Nat.Prime p) hc _)

/-- **C07 (divides and greatest, at the level of numbers).**  For rational magnitudes with prime bases,
every input is `kᵢ · common` with `kᵢ` the natural number `natVal (mᵢ / common)`, and no prime divides
all the `kᵢ`: the `kᵢ` are jointly coprime, so the common magnitude is the greatest common divisor. -/
theorem C07_gcd_value (piv : Rat) (hpi : 0 < piv) (ms : List Mag) (h : ∀ m ∈ ms, Mag.Rational m)
    (hp : ∀ m ∈ ms, Mag.PrimeBases m) (hne : ms ≠ []) :
    (∀ m ∈ ms, Mag.qval piv m = (Mag.natVal (Mag.div m (Mag.commonAll ms)) : Rat) * Mag.qval piv (Mag.commonAll ms)) ∧
    (∀ r, Nat.Prime r → ∃ m ∈ ms, ¬ r ∣ Mag.natVal (Mag.div m (Mag.commonAll ms))) := by
  have hv : ∀ m ∈ ms, Valid MagBase.lt m := fun m hm => (h m hm).valid
  have hc := Mag.commonAll_rational ms h
  refine ⟨fun m hm => qval_eq_natVal_div_mul piv hpi m _ (h m hm) hc (C07_divides ms hv m hm).1,
    fun r hr => ?_⟩
  -- some input has the exponent of the common magnitude at `r`; a prime dividing `natVal (m / common)`
  -- would be a base of that quotient, whose exponent there is 0 — but a valid pack holds no zero
  obtain ⟨m, hm, h0⟩ := C07_greatest ms hv hne (.prime r)
  refine ⟨m, hm, fun hdvd => ?_⟩
  have vq := div_valid MagBase.lt_strictTotal m _ (hv m hm) hc.valid
  obtain ⟨a, ha, ha1⟩ := prime_dvd_natVal r hr _
    (primeBases_div m _ (hp m hm) (Mag.forall_mem_commonAll hp)) hdvd
  have h1 := den_of_mem MagBase.lt_strictTotal _ vq.1 a ha
  rw [ha1, div_den MagBase.lt_strictTotal m _ (hv m hm).1 hc.valid, h0] at h1
  exact vq.2 a ha h1.symm

/-- 12 and 18 (2²·3 and 2·3²): common magnitude 6, ratios 2 and 3. -/
example : Mag.commonAll [[(.prime 2, 2), (.prime 3, 1)], [(.prime 2, 1), (.prime 3, 2)]] = [(.prime 2, 1), (.prime 3, 1)] ∧
    Mag.natVal (Mag.div [(.prime 2, 2), (.prime 3, 1)] [(.prime 2, 1), (.prime 3, 1)]) = 2 ∧
    Mag.natVal (Mag.div [(.prime 2, 1), (.prime 3, 2)] [(.prime 2, 1), (.prime 3, 1)]) = 3 := by
  decide +kernel

end Au
