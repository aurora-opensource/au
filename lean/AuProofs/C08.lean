/-
  AuProofs.C08 — mixed-unit comparison, addition, subtraction, modulo and `<=>` are exact.

  Units of one dimension are positive rationals (`URat`, scale relative to a base unit); the exact
  value of a quantity is `qval u v = v · scale u ∈ ℚ`.  `k1 = ratioL u1 u2`, `k2 = ratioR u1 u2` are the
  integer ratios (`AuModel.CommonRat`) to the common unit `g = commonScale u1 u2`.

  `+` and `-`: that the exact sum/difference itself fits the result rep is raw-operator behaviour and an explicit
  hypothesis of `C08_add_exact_partial` / `C08_sub_exact_partial` (the `…_full` forms without it are refuted).
  `%` and `<=>`: the model follows the fixed code (finding F17; the guard names say F11: `C08_F11_fixed_*`).
-/
import AuProofs.Lemmas.Mixed
import AuProofs.Lemmas.CommonRat
namespace Au
open IntTy Mixed

/-- Exact value (in base units) of the quantity `v` of unit `u`. -/
def qval (u : URat) (v : Int) : Rat := (v : Rat) * u.scale

/-- Scale of `CommonUnitT<U1, U2>`. -/
def commonScale (u1 u2 : URat) : Rat := (URat.common u1 u2).scale

/-- The exact rational relation each comparison operator stands for. -/
def Mixed.CmpOp.rel : CmpOp → Rat → Rat → Prop
  | .eq, a, b => a = b
  | .ne, a, b => a ≠ b
  | .lt, a, b => a < b
  | .le, a, b => a ≤ b
  | .gt, a, b => b < a
  | .ge, a, b => b ≤ a

theorem qval_left (u1 u2 : URat) (h1 : u1.Pos) (h2 : u2.Pos) (v : Int) :
    qval u1 v = ((v * (URat.ratioL u1 u2 : Nat) : Int) : Rat) * commonScale u1 u2 := by
  unfold qval commonScale
  rw [URat.scale_eq_ratioL u1 u2 h1 h2, Rat.intCast_mul, Rat.intCast_natCast]
  exact (Rat.mul_assoc _ _ _).symm

theorem qval_right (u1 u2 : URat) (h1 : u1.Pos) (h2 : u2.Pos) (v : Int) :
    qval u2 v = ((v * (URat.ratioR u1 u2 : Nat) : Int) : Rat) * commonScale u1 u2 := by
  unfold qval commonScale
  rw [URat.scale_eq_ratioR u1 u2 h1 h2, Rat.intCast_mul, Rat.intCast_natCast]
  exact (Rat.mul_assoc _ _ _).symm

theorem Mixed.eval_iff_rel (op : CmpOp) (a b : Int) (g : Rat) (hg : 0 < g) :
    op.eval a b = true ↔ op.rel ((a : Rat) * g) ((b : Rat) * g) := by
  cases op <;> simp only [CmpOp.eval, CmpOp.rel, decide_eq_true_eq]
  · exact (rat_scale_eq a b g hg).symm
  · exact not_congr (rat_scale_eq a b g hg).symm
  · exact (rat_scale_lt a b g hg).symm
  · exact (rat_scale_le a b g hg).symm
  · exact (rat_scale_lt b a g hg).symm
  · exact (rat_scale_le b a g hg).symm

theorem Mixed.eval_iff_rel_qval (op : CmpOp) (u1 u2 : URat) (hu1 : u1.Pos) (hu2 : u2.Pos) (v1 v2 : Int) :
    op.eval (v1 * (URat.ratioL u1 u2 : Nat)) (v2 * (URat.ratioR u1 u2 : Nat)) = true ↔
      op.rel (qval u1 v1) (qval u2 v2) := by
  rw [qval_left u1 u2 hu1 hu2, qval_right u1 u2 hu1 hu2]
  exact eval_iff_rel op _ _ _ (URat.common_scale_pos u1 u2 hu1 hu2)

/-- **C08, comparison.**  For integral reps of equal signedness, every pair of positive rational units
and all stored values: if scaling each operand to the common unit does not overflow in the common
rep, each of `== != < <= > >=` evaluates without undefined behaviour, wrap-around or narrowing, and is
true exactly when the corresponding relation holds between the exact rational values `v·unit`. -/
theorem C08_compare_exact (r1 r2 : IntTy) (h1 : r1 ∈ IntTy.all) (h2 : r2 ∈ IntTy.all)
    (hs : r1.signed = r2.signed) (u1 u2 : URat) (hu1 : u1.Pos) (hu2 : u2.Pos) (v1 v2 : Int)
    (hv1 : r1.inRange v1) (hv2 : r2.inRange v2)
    (hf : FitsCommon r1 r2 (URat.ratioL u1 u2) (URat.ratioR u1 u2) v1 v2) (op : CmpOp) :
    ∃ b : Bool, cmp op r1 r2 (URat.ratioL u1 u2) (URat.ratioR u1 u2) v1 v2 = ⟨.ok b, false, false⟩ ∧
      (b = true ↔ op.rel (qval u1 v1) (qval u2 v2)) := by
  exact ⟨_, cmp_ok op r1 r2 h1 h2 hs _ _ v1 v2 hv1 hv2 hf, eval_iff_rel_qval op u1 u2 hu1 hu2 v1 v2⟩

/-- Non-vacuity: 5 [3/4] (int16) vs 4 [5/6] (int32): k = (9, 10), 45 > 40 in twelfths. -/
example : FitsCommon i16 i32 (URat.ratioL ⟨3, 4⟩ ⟨5, 6⟩) (URat.ratioR ⟨3, 4⟩ ⟨5, 6⟩) 5 4 ∧
    cmp .gt i16 i32 (URat.ratioL ⟨3, 4⟩ ⟨5, 6⟩) (URat.ratioR ⟨3, 4⟩ ⟨5, 6⟩) 5 4 = ⟨.ok true, false, false⟩ := by
  decide

/-- `+` without the hypothesis that the exact sum fits the result rep (refuted below). -/
def C08_add_exact_full : Prop :=
  ∀ (r1 r2 : IntTy), r1 ∈ IntTy.all → r2 ∈ IntTy.all → r1.signed = r2.signed →
  ∀ (u1 u2 : URat), u1.Pos → u2.Pos → ∀ (v1 v2 : Int), r1.inRange v1 → r2.inRange v2 →
  FitsCommon r1 r2 (URat.ratioL u1 u2) (URat.ratioR u1 u2) v1 v2 →
  ∃ s : Int, (add r1 r2 (URat.ratioL u1 u2) (URat.ratioR u1 u2) v1 v2).val = .ok s ∧
    (s : Rat) * commonScale u1 u2 = qval u1 v1 + qval u2 v2

/-- The sum itself can overflow the result rep although both scalings fit
(int32 1073741823 [2·U] + int32 2 [U] = 2^31 [U]: signed overflow, undefined behaviour). -/
theorem C08_add_exact_counterexample : ¬ C08_add_exact_full := by
  intro h
  obtain ⟨s, hs, _⟩ := h i32 i32 (by decide) (by decide) rfl ⟨2, 1⟩ ⟨1, 1⟩ (by decide) (by decide)
    1073741823 2 (by decide) (by decide) (by decide)
  have hv : (match (add i32 i32 (URat.ratioL ⟨2, 1⟩ ⟨1, 1⟩) (URat.ratioR ⟨2, 1⟩ ⟨1, 1⟩) 1073741823 2).val with
      | .ok _ => false | .ub _ => true) = true := by decide
  rw [hs] at hv
  cases hv

/-- **C08, addition.**  If moreover the exact sum (in the common unit) is representable in the rep of
`q1 + q2` (the promoted common rep), then `q1 + q2` evaluates without undefined behaviour or
wrap-around and its value in the common unit, times the common unit, is exactly the rational sum. -/
theorem C08_add_exact_partial (r1 r2 : IntTy) (h1 : r1 ∈ IntTy.all) (h2 : r2 ∈ IntTy.all)
    (hs : r1.signed = r2.signed) (u1 u2 : URat) (hu1 : u1.Pos) (hu2 : u2.Pos) (v1 v2 : Int)
    (hv1 : r1.inRange v1) (hv2 : r2.inRange v2)
    (hf : FitsCommon r1 r2 (URat.ratioL u1 u2) (URat.ratioR u1 u2) v1 v2)
    (hsum : SumFits r1 r2 (URat.ratioL u1 u2) (URat.ratioR u1 u2) v1 v2) :
    ∃ s : Int, add r1 r2 (URat.ratioL u1 u2) (URat.ratioR u1 u2) v1 v2 = ⟨.ok s, false, false⟩ ∧
      (sumRep r1 r2).inRange s ∧ (s : Rat) * commonScale u1 u2 = qval u1 v1 + qval u2 v2 := by
  refine ⟨_, add_ok r1 r2 h1 h2 hs _ _ v1 v2 hv1 hv2 hf hsum, hsum, ?_⟩
  rw [qval_left u1 u2 hu1 hu2, qval_right u1 u2 hu1 hu2, Rat.intCast_add]
  exact Rat.add_mul _ _ _

/-- Non-vacuity: uint8 200 [1/3] + uint16 100 [4/1] (k = 1, 12): 200 + 1200 = 1400 thirds, in `int`. -/
example : FitsCommon u8 u16 (URat.ratioL ⟨1, 3⟩ ⟨4, 1⟩) (URat.ratioR ⟨1, 3⟩ ⟨4, 1⟩) 200 100 ∧
    SumFits u8 u16 (URat.ratioL ⟨1, 3⟩ ⟨4, 1⟩) (URat.ratioR ⟨1, 3⟩ ⟨4, 1⟩) 200 100 ∧
    add u8 u16 (URat.ratioL ⟨1, 3⟩ ⟨4, 1⟩) (URat.ratioR ⟨1, 3⟩ ⟨4, 1⟩) 200 100 = ⟨.ok 1400, false, false⟩ := by
  decide

/-- `-` without the hypothesis that the exact difference fits the result rep (refuted below). -/
def C08_sub_exact_full : Prop :=
  ∀ (r1 r2 : IntTy), r1 ∈ IntTy.all → r2 ∈ IntTy.all → r1.signed = r2.signed →
  ∀ (u1 u2 : URat), u1.Pos → u2.Pos → ∀ (v1 v2 : Int), r1.inRange v1 → r2.inRange v2 →
  FitsCommon r1 r2 (URat.ratioL u1 u2) (URat.ratioR u1 u2) v1 v2 →
  ∃ s : Int, (sub r1 r2 (URat.ratioL u1 u2) (URat.ratioR u1 u2) v1 v2).val = .ok s ∧
    (s : Rat) * commonScale u1 u2 = qval u1 v1 - qval u2 v2

/-- The difference can overflow the result rep although both scalings fit
(int32 −1073741824 [2·U] − int32 1 [U] = −2^31 − 1 [U]: undefined behaviour). -/
theorem C08_sub_exact_counterexample : ¬ C08_sub_exact_full := by
  intro h
  obtain ⟨s, hs, _⟩ := h i32 i32 (by decide) (by decide) rfl ⟨2, 1⟩ ⟨1, 1⟩ (by decide) (by decide)
    (-1073741824) 1 (by decide) (by decide) (by decide)
  have hv : (match (sub i32 i32 (URat.ratioL ⟨2, 1⟩ ⟨1, 1⟩) (URat.ratioR ⟨2, 1⟩ ⟨1, 1⟩) (-1073741824) 1).val with
      | .ok _ => false | .ub _ => true) = true := by decide
  rw [hs] at hv
  cases hv

/-- **C08, subtraction**: as addition, with `DiffFits`. -/
theorem C08_sub_exact_partial (r1 r2 : IntTy) (h1 : r1 ∈ IntTy.all) (h2 : r2 ∈ IntTy.all)
    (hs : r1.signed = r2.signed) (u1 u2 : URat) (hu1 : u1.Pos) (hu2 : u2.Pos) (v1 v2 : Int)
    (hv1 : r1.inRange v1) (hv2 : r2.inRange v2)
    (hf : FitsCommon r1 r2 (URat.ratioL u1 u2) (URat.ratioR u1 u2) v1 v2)
    (hdiff : DiffFits r1 r2 (URat.ratioL u1 u2) (URat.ratioR u1 u2) v1 v2) :
    ∃ s : Int, sub r1 r2 (URat.ratioL u1 u2) (URat.ratioR u1 u2) v1 v2 = ⟨.ok s, false, false⟩ ∧
      (sumRep r1 r2).inRange s ∧ (s : Rat) * commonScale u1 u2 = qval u1 v1 - qval u2 v2 := by
  refine ⟨_, sub_ok r1 r2 h1 h2 hs _ _ v1 v2 hv1 hv2 hf hdiff, hdiff, ?_⟩
  rw [qval_left u1 u2 hu1 hu2, qval_right u1 u2 hu1 hu2, Rat.intCast_sub]
  -- (A − B)·g = A·g − B·g
  grind

/-- Non-vacuity: int8 −100 [3/1] − int64 7 [1/2] (k = 6, 1): −600 − 7 = −607 halves. -/
example : FitsCommon i8 i64 (URat.ratioL ⟨3, 1⟩ ⟨1, 2⟩) (URat.ratioR ⟨3, 1⟩ ⟨1, 2⟩) (-100) 7 ∧
    DiffFits i8 i64 (URat.ratioL ⟨3, 1⟩ ⟨1, 2⟩) (URat.ratioR ⟨3, 1⟩ ⟨1, 2⟩) (-100) 7 ∧
    sub i8 i64 (URat.ratioL ⟨3, 1⟩ ⟨1, 2⟩) (URat.ratioR ⟨3, 1⟩ ⟨1, 2⟩) (-100) 7 = ⟨.ok (-607), false, false⟩ := by
  decide

/-- `m` (a count of common units) is the exact truncated remainder of `x` by `y`:
`x = q·y + m·g` for an integer `q`, `|m·g| < |y|`, and `m·g` has the sign of `x` (or is zero). -/
def IsExactRemainder (m : Int) (g x y : Rat) : Prop :=
  (∃ q : Int, (m : Rat) * g = x - (q : Rat) * y) ∧ ((m : Rat) * g) * ((m : Rat) * g) < y * y ∧
  (0 ≤ x → 0 ≤ (m : Rat) * g) ∧ (x ≤ 0 → (m : Rat) * g ≤ 0)

theorem isExactRemainder_tmod (A B : Int) (hB : B ≠ 0) (g : Rat) (hg : 0 < g) :
    IsExactRemainder (Int.tmod A B) g ((A : Rat) * g) ((B : Rat) * g) := by
  refine ⟨⟨Int.tdiv A B, ?_⟩, ?_, fun hx => ?_, fun hx => ?_⟩
  · have : ((Int.tmod A B : Int) : Rat) = (A : Rat) - (Int.tdiv A B : Rat) * (B : Rat) := by
      rw [← Rat.intCast_mul, ← Rat.intCast_sub]
      congr 1
      have := Int.mul_tdiv_add_tmod A B
      rw [Int.mul_comm]; omega
    -- (A − q·B)·g = A·g − q·(B·g)
    rw [this]; grind
  · have h : ((Int.tmod A B * Int.tmod A B : Int) : Rat) < ((B * B : Int) : Rat) :=
      Rat.intCast_lt_intCast.mpr (tmod_sq_lt A B hB)
    rw [Rat.intCast_mul, Rat.intCast_mul] at h
    have := (Rat.mul_lt_mul_right (Rat.mul_pos hg hg)).2 h
    -- `this` is (m·m)·(g·g) < (B·B)·(g·g); the goal is (m·g)·(m·g) < (B·g)·(B·g)
    grind
  · exact (rat_scale_nonneg _ g hg).2 (Int.tmod_nonneg B ((rat_scale_nonneg A g hg).1 hx))
  · exact (rat_scale_nonpos _ g hg).2 (tmod_nonpos A B ((rat_scale_nonpos A g hg).1 hx))

/-- **C08, modulo (full strength).**  If scaling each operand to the common unit does not overflow in the common
rep, the divisor is non-zero and the operands are not `min % −1` (where the built-in `%` is undefined),
then `q1 % q2` evaluates without undefined behaviour, wrap-around or narrowing and is the exact truncated
remainder of the rational values, expressed in the common unit. -/
theorem C08_mod_exact (r1 r2 : IntTy) (h1 : r1 ∈ IntTy.all) (h2 : r2 ∈ IntTy.all)
    (hs : r1.signed = r2.signed) (u1 u2 : URat) (hu1 : u1.Pos) (hu2 : u2.Pos) (v1 v2 : Int)
    (hv1 : r1.inRange v1) (hv2 : r2.inRange v2)
    (hf : FitsCommon r1 r2 (URat.ratioL u1 u2) (URat.ratioR u1 u2) v1 v2)
    (hd : ModDefined r1 r2 (URat.ratioL u1 u2) (URat.ratioR u1 u2) v1 v2) :
    ∃ m : Int, mod r1 r2 (URat.ratioL u1 u2) (URat.ratioR u1 u2) v1 v2 = ⟨.ok m, false, false⟩ ∧
      IsExactRemainder m (commonScale u1 u2) (qval u1 v1) (qval u2 v2) := by
  refine ⟨Int.tmod (v1 * (URat.ratioL u1 u2 : Nat)) (v2 * (URat.ratioR u1 u2 : Nat)), ?_, ?_⟩
  · unfold mod
    rw [usingRepCast_ok r1 r2 h1 h2 hs _ _ v1 v2 hv1 hv2 hf, modIn_ok _ _ _ hd.1 hd.2]
  · rw [qval_left u1 u2 hu1 hu2, qval_right u1 u2 hu1 hu2]
    exact isExactRemainder_tmod _ _ hd.1 _ (URat.common_scale_pos u1 u2 hu1 hu2)

/-- Non-vacuity; guards finding F17 (the model follows the fixed code, which scales both operands in the common rep):
int16 30000 [2·U] % int32 7 [U]: 60000 fits the common rep `int`; the remainder is 3 [U]. -/
theorem C08_F11_fixed_mod :
    FitsCommon i16 i32 (URat.ratioL ⟨2, 1⟩ ⟨1, 1⟩) (URat.ratioR ⟨2, 1⟩ ⟨1, 1⟩) 30000 7 ∧
    ModDefined i16 i32 (URat.ratioL ⟨2, 1⟩ ⟨1, 1⟩) (URat.ratioR ⟨2, 1⟩ ⟨1, 1⟩) 30000 7 ∧
    mod i16 i32 (URat.ratioL ⟨2, 1⟩ ⟨1, 1⟩) (URat.ratioR ⟨2, 1⟩ ⟨1, 1⟩) 30000 7 = ⟨.ok 3, false, false⟩ := by
  decide

/-- **C08, consistency of the six comparisons** (no hypothesis on ranges or overflow): whenever the six
operators all return a value on a pair of operands, exactly one of `<`, `==`, `>` holds and the other
three are determined by them. -/
theorem C08_consistent (r1 r2 : IntTy) (k1 k2 : Nat) (v1 v2 : Int) (b : CmpOp → Bool)
    (h : ∀ op, (cmp op r1 r2 k1 k2 v1 v2).val = .ok (b op)) :
    ((b .lt && !b .eq && !b .gt) || (!b .lt && b .eq && !b .gt) || (!b .lt && !b .eq && b .gt)) = true ∧
    b .ne = !b .eq ∧ b .le = (b .lt || b .eq) ∧ b .ge = (b .gt || b .eq) := by
  -- all six answers are read off one three-way comparison of the operand pair
  have hall : ∃ o : Ordering, ∀ op, b op = op.ofOrdering o := by
    simp only [cmp_val] at h
    cases hp : (commonPair r1 r2 k1 k2 v1 v2).val with
    | ok p =>
      refine ⟨compare p.1 p.2, fun op => ?_⟩
      have := h op
      rw [hp] at this
      rw [← eval_eq_ofOrdering]
      exact (Eval.ok.inj this).symm
    | ub w => have := h .eq; rw [hp] at this; cases this
  obtain ⟨o, ho⟩ := hall
  simp only [ho]
  cases o <;> decide

/-- Mirror of an operator (`a op b` ⇔ `b op.swap a`). -/
def Mixed.CmpOp.swap : CmpOp → CmpOp
  | .eq => .eq | .ne => .ne | .lt => .gt | .le => .ge | .gt => .lt | .ge => .le

theorem Mixed.eval_swap (op : CmpOp) (x y : Int) : op.swap.eval y x = op.eval x y := by
  cases op <;> simp [CmpOp.swap, CmpOp.eval, eq_comm]

theorem commonPair_swap (r1 r2 : IntTy) (h1 : r1 ∈ IntTy.all) (h2 : r2 ∈ IntTy.all) (k1 k2 : Nat) (v1 v2 x y : Int) :
    (commonPair r1 r2 k1 k2 v1 v2).val = .ok (x, y) ↔ (commonPair r2 r1 k2 k1 v2 v1).val = .ok (y, x) := by
  unfold commonPair usingCommon
  simp only [common_comm r2 r1 h2 h1]
  cases (castToCommon r1 (IntTy.common r1 r2) k1 v1).val with
  | ub w => cases (castToCommon r2 (IntTy.common r1 r2) k2 v2).val <;> simp
  | ok a =>
    cases (castToCommon r2 (IntTy.common r1 r2) k2 v2).val with
    | ub w => simp
    | ok b =>
      simp only [Eval.ok.injEq, Prod.mk.injEq]
      exact And.comm

set_option linter.unusedVariables false in -- `hs`: the common rep of all 64 pairs is symmetric
/-- **C08, mirror forms**: `q1 op q2` and `q2 op' q1` (mirrored operator) return the same
value whenever either returns one — the common unit and common rep do not depend on the order. -/
theorem C08_mirror (r1 r2 : IntTy) (h1 : r1 ∈ IntTy.all) (h2 : r2 ∈ IntTy.all)
    (hs : r1.signed = r2.signed) (u1 u2 : URat) (v1 v2 : Int) (op : CmpOp) (b : Bool) :
    (cmp op r1 r2 (URat.ratioL u1 u2) (URat.ratioR u1 u2) v1 v2).val = .ok b ↔
    (cmp op.swap r2 r1 (URat.ratioL u2 u1) (URat.ratioR u2 u1) v2 v1).val = .ok b := by
  rw [URat.ratio_symm u2 u1, ← URat.ratio_symm u1 u2, cmp_val, cmp_val]
  cases hp : (commonPair r1 r2 (URat.ratioL u1 u2) (URat.ratioR u1 u2) v1 v2).val with
  | ok p =>
    obtain ⟨x, y⟩ := p
    have := (commonPair_swap r1 r2 h1 h2 _ _ v1 v2 x y).1 hp
    rw [this]
    simp only [eval_swap]
  | ub w =>
    cases hq : (commonPair r2 r1 (URat.ratioR u1 u2) (URat.ratioL u1 u2) v2 v1).val with
    | ok q =>
      obtain ⟨y, x⟩ := q
      have := (commonPair_swap r1 r2 h1 h2 _ _ v1 v2 x y).2 hq
      rw [hp] at this
      cases this
    | ub w' => simp

/-- **C08, antisymmetry**: `q1 <= q2` and `q2 <= q1` imply `q1 == q2` (no overflow hypothesis). -/
theorem C08_antisymm (r1 r2 : IntTy) (h1 : r1 ∈ IntTy.all) (h2 : r2 ∈ IntTy.all)
    (hs : r1.signed = r2.signed) (u1 u2 : URat) (v1 v2 : Int)
    (hle : (cmp .le r1 r2 (URat.ratioL u1 u2) (URat.ratioR u1 u2) v1 v2).val = .ok true)
    (hge : (cmp .le r2 r1 (URat.ratioL u2 u1) (URat.ratioR u2 u1) v2 v1).val = .ok true) :
    (cmp .eq r1 r2 (URat.ratioL u1 u2) (URat.ratioR u1 u2) v1 v2).val = .ok true := by
  have hge' := (C08_mirror r1 r2 h1 h2 hs u1 u2 v1 v2 .ge true).2 hge
  rw [cmp_val] at hle hge' ⊢
  cases hp : (commonPair r1 r2 (URat.ratioL u1 u2) (URat.ratioR u1 u2) v1 v2).val with
  | ok p =>
    rw [hp] at hle hge'
    simp only [CmpOp.eval] at hle hge' ⊢
    injection hle with hle
    injection hge' with hge'
    have hle := of_decide_eq_true hle
    have hge' := of_decide_eq_true hge'
    have : p.1 = p.2 := by omega
    simp [this]
  | ub w => rw [hp] at hle; cases hle

theorem cmp_true_iff (op : CmpOp) (r1 r2 : IntTy) (h1 : r1 ∈ IntTy.all) (h2 : r2 ∈ IntTy.all) (hs : r1.signed = r2.signed)
    (u1 u2 : URat) (p1 : u1.Pos) (p2 : u2.Pos) (v1 v2 : Int) (hv1 : r1.inRange v1) (hv2 : r2.inRange v2)
    (hf : FitsCommon r1 r2 (URat.ratioL u1 u2) (URat.ratioR u1 u2) v1 v2) :
    (cmp op r1 r2 (URat.ratioL u1 u2) (URat.ratioR u1 u2) v1 v2).val = .ok true ↔ op.rel (qval u1 v1) (qval u2 v2) := by
  obtain ⟨b, hb, hiff⟩ := C08_compare_exact r1 r2 h1 h2 hs u1 u2 p1 p2 v1 v2 hv1 hv2 hf op
  rw [hb, ← hiff]
  exact ⟨fun h => Eval.ok.inj h, fun h => by rw [h]⟩

/-- **C08, transitivity across three units.**  Three quantities with three different units and reps of
equal signedness, each pair compared through its own common unit and common rep: if none of the six
scalings overflows, `q1 <= q2` and `q2 <= q3` imply `q1 <= q3` (same for `<` with one strict premise,
and for `==`). -/
theorem C08_transitive (ra rb rc : IntTy) (ha : ra ∈ IntTy.all) (hb : rb ∈ IntTy.all) (hc : rc ∈ IntTy.all)
    (hab : ra.signed = rb.signed) (hbc : rb.signed = rc.signed)
    (ua ub uc : URat) (pa : ua.Pos) (pb : ub.Pos) (pc : uc.Pos) (va vb vc : Int)
    (hva : ra.inRange va) (hvb : rb.inRange vb) (hvc : rc.inRange vc)
    (f1 : FitsCommon ra rb (URat.ratioL ua ub) (URat.ratioR ua ub) va vb)
    (f2 : FitsCommon rb rc (URat.ratioL ub uc) (URat.ratioR ub uc) vb vc)
    (f3 : FitsCommon ra rc (URat.ratioL ua uc) (URat.ratioR ua uc) va vc) :
    ((cmp .le ra rb (URat.ratioL ua ub) (URat.ratioR ua ub) va vb).val = .ok true →
     (cmp .le rb rc (URat.ratioL ub uc) (URat.ratioR ub uc) vb vc).val = .ok true →
     (cmp .le ra rc (URat.ratioL ua uc) (URat.ratioR ua uc) va vc).val = .ok true) ∧
    ((cmp .lt ra rb (URat.ratioL ua ub) (URat.ratioR ua ub) va vb).val = .ok true →
     (cmp .le rb rc (URat.ratioL ub uc) (URat.ratioR ub uc) vb vc).val = .ok true →
     (cmp .lt ra rc (URat.ratioL ua uc) (URat.ratioR ua uc) va vc).val = .ok true) ∧
    ((cmp .le ra rb (URat.ratioL ua ub) (URat.ratioR ua ub) va vb).val = .ok true →
     (cmp .lt rb rc (URat.ratioL ub uc) (URat.ratioR ub uc) vb vc).val = .ok true →
     (cmp .lt ra rc (URat.ratioL ua uc) (URat.ratioR ua uc) va vc).val = .ok true) ∧
    ((cmp .eq ra rb (URat.ratioL ua ub) (URat.ratioR ua ub) va vb).val = .ok true →
     (cmp .eq rb rc (URat.ratioL ub uc) (URat.ratioR ub uc) vb vc).val = .ok true →
     (cmp .eq ra rc (URat.ratioL ua uc) (URat.ratioR ua uc) va vc).val = .ok true) := by
  have hac : ra.signed = rc.signed := hab.trans hbc
  simp only [cmp_true_iff _ ra rb ha hb hab ua ub pa pb va vb hva hvb f1,
    cmp_true_iff _ rb rc hb hc hbc ub uc pb pc vb vc hvb hvc f2,
    cmp_true_iff _ ra rc ha hc hac ua uc pa pc va vc hva hvc f3, CmpOp.rel]
  exact ⟨Rat.le_trans, fun x y => Rat.not_le.mp fun h => Rat.not_le.mpr x (Rat.le_trans y h),
    fun x y => Rat.not_le.mp fun h => Rat.not_le.mpr y (Rat.le_trans h x), Eq.trans⟩

/-- **C08, mutual consistency on clean inputs.**  Under the hypotheses of
`C08_compare_exact` all six comparisons return a value cleanly, are complementary in pairs and mirror each other;
`<` is the exact rational order. -/
theorem C08_consistent_clean (r1 r2 : IntTy) (h1 : r1 ∈ IntTy.all) (h2 : r2 ∈ IntTy.all)
    (hs : r1.signed = r2.signed) (u1 u2 : URat) (hu1 : u1.Pos) (hu2 : u2.Pos) (v1 v2 : Int)
    (hv1 : r1.inRange v1) (hv2 : r2.inRange v2)
    (hf : FitsCommon r1 r2 (URat.ratioL u1 u2) (URat.ratioR u1 u2) v1 v2) :
    ∃ beq bne blt ble bgt bge : Bool,
      cmp .eq r1 r2 (URat.ratioL u1 u2) (URat.ratioR u1 u2) v1 v2 = ⟨.ok beq, false, false⟩ ∧
      cmp .ne r1 r2 (URat.ratioL u1 u2) (URat.ratioR u1 u2) v1 v2 = ⟨.ok bne, false, false⟩ ∧
      cmp .lt r1 r2 (URat.ratioL u1 u2) (URat.ratioR u1 u2) v1 v2 = ⟨.ok blt, false, false⟩ ∧
      cmp .le r1 r2 (URat.ratioL u1 u2) (URat.ratioR u1 u2) v1 v2 = ⟨.ok ble, false, false⟩ ∧
      cmp .gt r1 r2 (URat.ratioL u1 u2) (URat.ratioR u1 u2) v1 v2 = ⟨.ok bgt, false, false⟩ ∧
      cmp .ge r1 r2 (URat.ratioL u1 u2) (URat.ratioR u1 u2) v1 v2 = ⟨.ok bge, false, false⟩ ∧
      beq = !bne ∧ blt = !bge ∧ ble = !bgt ∧
      (cmp .gt r2 r1 (URat.ratioL u2 u1) (URat.ratioR u2 u1) v2 v1).val = .ok blt ∧
      (cmp .lt r2 r1 (URat.ratioL u2 u1) (URat.ratioR u2 u1) v2 v1).val = .ok bgt ∧
      (blt = true ↔ qval u1 v1 < qval u2 v2) := by
  have key := fun op => cmp_ok op r1 r2 h1 h2 hs _ _ v1 v2 hv1 hv2 hf
  refine ⟨_, _, _, _, _, _, key .eq, key .ne, key .lt, key .le, key .gt, key .ge, ?_, ?_, ?_, ?_, ?_, ?_⟩
  · rw [eval_eq_ofOrdering, eval_eq_ofOrdering]; exact ofOrdering_eq_not_ne _
  · rw [eval_eq_ofOrdering, eval_eq_ofOrdering]; exact ofOrdering_lt_not_ge _
  · rw [eval_eq_ofOrdering, eval_eq_ofOrdering]; exact ofOrdering_le_not_gt _
  · exact (C08_mirror r1 r2 h1 h2 hs u1 u2 v1 v2 .lt _).1 (by rw [key .lt])
  · exact (C08_mirror r1 r2 h1 h2 hs u1 u2 v1 v2 .gt _).1 (by rw [key .gt])
  · exact eval_iff_rel_qval .lt u1 u2 hu1 hu2 v1 v2

/-- **C08, `<=>` (full strength).**  If scaling each operand to the common unit does not overflow in the common rep,
`q1 <=> q2` evaluates without undefined behaviour or narrowing, orders the operands as their exact rational
values, and agrees with each of the six comparison operators. -/
theorem C08_spaceship_agrees (r1 r2 : IntTy) (h1 : r1 ∈ IntTy.all) (h2 : r2 ∈ IntTy.all)
    (hs : r1.signed = r2.signed) (u1 u2 : URat) (hu1 : u1.Pos) (hu2 : u2.Pos) (v1 v2 : Int)
    (hv1 : r1.inRange v1) (hv2 : r2.inRange v2)
    (hf : FitsCommon r1 r2 (URat.ratioL u1 u2) (URat.ratioR u1 u2) v1 v2) :
    ∃ o : Ordering, spaceship r1 r2 (URat.ratioL u1 u2) (URat.ratioR u1 u2) v1 v2 = ⟨.ok o, false, false⟩ ∧
      (o = .lt ↔ qval u1 v1 < qval u2 v2) ∧ (o = .eq ↔ qval u1 v1 = qval u2 v2) ∧
      (o = .gt ↔ qval u2 v2 < qval u1 v1) ∧
      ∀ op, cmp op r1 r2 (URat.ratioL u1 u2) (URat.ratioR u1 u2) v1 v2 = ⟨.ok (op.ofOrdering o), false, false⟩ := by
  have hg : 0 < commonScale u1 u2 := URat.common_scale_pos u1 u2 hu1 hu2
  rw [qval_left u1 u2 hu1 hu2, qval_right u1 u2 hu1 hu2, rat_scale_lt _ _ _ hg, rat_scale_eq _ _ _ hg,
    rat_scale_lt _ _ _ hg]
  refine ⟨_, ?_, Int.compare_eq_lt, Int.compare_eq_eq, Int.compare_eq_gt, fun op => ?_⟩
  · unfold spaceship
    rw [usingRepCast_ok r1 r2 h1 h2 hs _ _ v1 v2 hv1 hv2 hf]
  · rw [← eval_eq_ofOrdering]
    exact cmp_ok op r1 r2 h1 h2 hs _ _ v1 v2 hv1 hv2 hf

/-- Non-vacuity; guards finding F17 (the model follows the fixed code): int16 30000 [2·U] vs int32 7 [U]: `<=>` is
`greater` and `<` is false. -/
theorem C08_F11_fixed_spaceship :
    FitsCommon i16 i32 (URat.ratioL ⟨2, 1⟩ ⟨1, 1⟩) (URat.ratioR ⟨2, 1⟩ ⟨1, 1⟩) 30000 7 ∧
    spaceship i16 i32 (URat.ratioL ⟨2, 1⟩ ⟨1, 1⟩) (URat.ratioR ⟨2, 1⟩ ⟨1, 1⟩) 30000 7 = ⟨.ok .gt, false, false⟩ ∧
    cmp .lt i16 i32 (URat.ratioL ⟨2, 1⟩ ⟨1, 1⟩) (URat.ratioR ⟨2, 1⟩ ⟨1, 1⟩) 30000 7 = ⟨.ok false, false, false⟩ := by
  decide

/-! ## The compile gate (not part of the statement; recorded for the correspondence) -/

/-- What the implicit-conversion policy admits for an integer ratio `k > 1` in rep `t`: exactly
`2147 · k ≤ max(t)` (`OVERFLOW_THRESHOLD = 2147`). -/
theorem implicitOk_iff (t : IntTy) (ht : t ∈ IntTy.all) (k : Nat) (hk : 1 < k) :
    implicitOk t k = true ↔ 2147 * (k : Int) ≤ t.hi := by
  unfold implicitOk
  have hk1 : ¬ k = 1 := by omega
  rw [if_neg hk1]
  have hkpos : (0 : Int) < k := by omega
  by_cases hfit : (k : Int) ≤ t.hi
  · rw [gvInt_of_le t k hfit]
    simp only [Bool.and_eq_true, decide_eq_true_eq, ge_iff_le]
    have hthr := thr_pos t.hi k 2147 hkpos (hi_nonneg t ht)
    constructor
    · intro h; exact hthr.1 h.2
    · intro h; exact ⟨by omega, hthr.2 h⟩
  · rw [gvInt_of_gt t k hfit]
    constructor
    · intro h; cases h
    · intro h; omega

end Au
