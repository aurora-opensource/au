import AuModel.CommonPoint
import AuProofs.C07
namespace Au
open Pack

/-! # C10 — the common point unit keeps every input integral and non-negative -/

def Origin.le (a b : Origin) : Prop := a.pos < b.pos ∨ (a.pos = b.pos ∧ a.native ≤ b.native)

theorem Origin.le_refl (a : Origin) : Origin.le a a := Or.inr ⟨rfl, Int.le_refl _⟩

theorem Origin.le_trans {a b c : Origin} (h1 : Origin.le a b) (h2 : Origin.le b c) : Origin.le a c := by
  unfold Origin.le at *; grind

theorem commonOrigin_cons_cons (h a : Origin) (t : List Origin) :
    commonOrigin (h :: a :: t) =
      if h.pos < (commonOrigin (a :: t)).pos then h
      else if (commonOrigin (a :: t)).pos < h.pos then commonOrigin (a :: t)
      else if h.native < (commonOrigin (a :: t)).native then h else commonOrigin (a :: t) := rfl

theorem commonOrigin_step (h a : Origin) (t : List Origin) :
    (commonOrigin (h :: a :: t) = h ∨ commonOrigin (h :: a :: t) = commonOrigin (a :: t)) ∧
      Origin.le (commonOrigin (h :: a :: t)) h ∧
      Origin.le (commonOrigin (h :: a :: t)) (commonOrigin (a :: t)) := by
  rw [commonOrigin_cons_cons]
  generalize commonOrigin (a :: t) = c
  unfold Origin.le
  split
  · grind
  · split
    · grind
    · split <;> grind

/-- The common origin is one of the inputs and is the lexicographic minimum: no input lies below it
(so every displacement `origin(U) − common origin` is non-negative). -/
theorem commonOrigin_min : (l : List Origin) → l ≠ [] →
    commonOrigin l ∈ l ∧ ∀ o ∈ l, Origin.le (commonOrigin l) o
  | [], h => absurd rfl h
  | [o], _ => ⟨List.mem_cons_self .., fun x hx => by rw [List.mem_singleton.1 hx]; exact Origin.le_refl o⟩
  | h :: h2 :: t, _ => by
    obtain ⟨ihm, ihle⟩ := commonOrigin_min (h2 :: t) (List.cons_ne_nil _ _)
    obtain ⟨hr, hh, hc⟩ := commonOrigin_step h h2 t
    refine ⟨?_, fun o ho => ?_⟩
    · rcases hr with e | e
      · rw [e]; exact List.mem_cons_self ..
      · rw [e]; exact List.mem_cons_of_mem _ ihm
    · rcases List.mem_cons.1 ho with rfl | ho
      · exact hh
      · exact Origin.le_trans hc (ihle o ho)

/-- Position and native value of the common origin do not depend on the order (or repetition) of
the inputs: two non-empty lists with the same members give the same (position, native) pair. -/
theorem commonOrigin_congr (l l' : List Origin) (hl : l ≠ []) (hl' : l' ≠ []) (hm : ∀ o, o ∈ l ↔ o ∈ l') :
    (commonOrigin l).pos = (commonOrigin l').pos ∧ (commonOrigin l).native = (commonOrigin l').native := by
  obtain ⟨m1, le1⟩ := commonOrigin_min l hl
  obtain ⟨m2, le2⟩ := commonOrigin_min l' hl'
  -- each minimum is a member of the other list, so each is at most the other
  have a := le1 _ ((hm _).2 m2)
  have b := le2 _ ((hm _).1 m1)
  unfold Origin.le at a b
  grind

theorem commonPointMag_le (unitMags dispMags : List Mag)
    (hu : ∀ m ∈ unitMags, Valid MagBase.lt m) (hd : ∀ m ∈ dispMags, Valid MagBase.lt m)
    (m : Mag) (hm : m ∈ unitMags ∨ m ∈ dispMags) : MagLe (commonPointMag unitMags dispMags) m := by
  unfold commonPointMag
  cases dispMags with
  | nil => exact Mag.commonAll_le unitMags hu m (hm.resolve_right List.not_mem_nil)
  | cons d ds =>
    have hv : ∀ k ∈ unitMags ++ [Mag.commonAll (d :: ds)], Valid MagBase.lt k :=
      List.forall_mem_append.2 ⟨hu, List.forall_mem_singleton.2 (Mag.commonAll_valid _ hd)⟩
    rcases hm with hm | hm
    · exact Mag.commonAll_le _ hv m (List.mem_append_left _ hm)
    · exact MagLe.trans (Mag.commonAll_le _ hv _ (List.mem_append_right _ (List.mem_singleton_self _)))
        (Mag.commonAll_le _ hd m hm)

/-- The magnitude of the common point unit divides every input unit's magnitude … -/
theorem C10_divides_units (unitMags dispMags : List Mag)
    (hu : ∀ m ∈ unitMags, Valid MagBase.lt m) (hd : ∀ m ∈ dispMags, Valid MagBase.lt m)
    (m : Mag) (hm : m ∈ unitMags) (x : MagBase) :
    0 ≤ den m x - den (commonPointMag unitMags dispMags) x :=
  MagLe.iff_sub_nonneg.1 (commonPointMag_le unitMags dispMags hu hd m (Or.inl hm)) x

/-- … and the unit magnitude of every non-zero origin displacement, so that both the scale factor
`a = mag(U)/mag(common)` and the offset `b = displacement / mag(common)` have non-negative
exponents at every base (integers, for rational scales and offsets). -/
theorem C10_divides_displacements (unitMags dispMags : List Mag)
    (hu : ∀ m ∈ unitMags, Valid MagBase.lt m) (hd : ∀ m ∈ dispMags, Valid MagBase.lt m)
    (d : Mag) (hdm : d ∈ dispMags) (x : MagBase) :
    0 ≤ den d x - den (commonPointMag unitMags dispMags) x :=
  MagLe.iff_sub_nonneg.1 (commonPointMag_le unitMags dispMags hu hd d (Or.inr hdm)) x

/-- Symmetry of the type: `ComputeCommonPointUnit` sorts and de-duplicates its inputs with the same
`FlatDedupedTypeList` as `CommonUnit`, so any two input lists with the same members give the identical
`CommonPointUnit<...>` list (for every strict total unit order).  Each input enters as the one-element
list `[u]`: inputs that are themselves `CommonPointUnit<...>`, which `AsPackT` would flatten, are not
covered. -/
theorem C10_perm {lt : U → U → Bool} (hlt : StrictTotal lt) (us vs : List U)
    (hm : ∀ u, u ∈ us ↔ u ∈ vs) :
    flatDedup lt (us.map fun u => [u]) = flatDedup lt (vs.map fun u => [u]) :=
  flatDedup_map_congr hlt _ us vs (fun _ _ => List.pairwise_singleton ..)
    (fun _ _ => List.pairwise_singleton ..) hm

/-- Celsius (origin 27315 cK), Kelvins (ZERO), Fahrenheit (origin 45967/180 K = 459.67 °R): the
common origin is ZERO. -/
example : commonOrigin [⟨(27315 : Rat) / 100, 27315, 0⟩, ⟨0, 0, 1⟩, ⟨(45967 : Rat) / 180, 45967, 2⟩] = ⟨0, 0, 1⟩ := by
  decide +kernel

end Au
