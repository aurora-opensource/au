/-
  Property C19 — ZERO is the exact zero of every unit.

  Every theorem is about the executable model `AuModel.Zero` (the functions the compiled driver
  runs) and quantifies over *every* unit identifier, every rep, every comparison operator and every
  value an object of the rep can hold (all integers of the type's range; all IEEE values of the
  format, including NaN, ±inf, ±0 and subnormals) — no bounds.
-/
import AuProofs.Lemmas.Zero
namespace Au
open Au.Zero

/-! ## Vocabulary of the statements

From the model: `Val.signClass` classifies the *exact* value against the number 0 (NaN is unordered);
`SignClass.cmp0 c op` is "`x op 0`" and `cmp0' c op` is "`0 op x`" in exact arithmetic (for integer
reps literally the integer comparisons, `C19_compare_int`).  The two are mirror images (`<` with `>`,
`≤` with `≥`); no lemma states it: for a given pair of operators it holds by `rfl` or a case split.
`Outcome` is `Au.Zero.Outcome`: `Au.Outcome` of AuModel/Outcome.lean (C01) must not be imported. -/

/-- Numerical equality as `==` computes it between two values of possibly different integer types
(in their common type, which holds both exactly) or two floats of one format (IEEE `==`). -/
def numEq : Val → Val → Bool
  | .int _ a, .int _ b => decide (a = b)
  | .flt f a, .flt f' b => decide (f = f') && fEq a b
  | _, _ => false

/-- Same value up to the sign of a zero; NaN corresponds to NaN (what "adding the exact number 0"
gives in IEEE arithmetic). -/
def sameNumber : Val → Val → Prop
  | .int _ a, .int _ b => a = b
  | .flt f a, .flt f' b =>
    f = f' ∧ (a = b ∨ (a.signClass = .zero ∧ b.signClass = .zero))
  | _, _ => False

/-- **C19, comparisons, `q op ZERO`.**  Accepted, resolved through `Quantity(Zero)` and the same-type
hidden friend, and the exact comparison of the stored value (well-formed or not) with the number 0. -/
theorem C19_compare (u : UnitId) (v : Val) (op : CmpOp) :
    binop (.cmp op) (.qty ⟨u, v⟩) .zero = .ok (.bool (v.signClass.cmp0 op)) :=
  (binop_qty_zero _ _).trans (qtyFriend_cmp_eq u (valCmp_lit0_right op v))

/-- **C19, comparisons, `ZERO op q`.** -/
theorem C19_compare_symm (u : UnitId) (v : Val) (op : CmpOp) :
    binop (.cmp op) .zero (.qty ⟨u, v⟩) = .ok (.bool (v.signClass.cmp0' op)) :=
  (binop_zero_qty _ _).trans (qtyFriend_cmp_eq u (valCmp_lit0_left op v))

/-- For integer reps the right-hand sides are literally `x op 0` and `0 op x` in ℤ. -/
theorem C19_compare_int (u : UnitId) (t : IntTy) (x : Int) (op : CmpOp) :
    binop (.cmp op) (.qty ⟨u, .int t x⟩) .zero = .ok (.bool (intCmp op x 0)) ∧
    binop (.cmp op) .zero (.qty ⟨u, .int t x⟩) = .ok (.bool (intCmp op 0 x)) := by
  rw [C19_compare, C19_compare_symm, intCmp_zero_right, intCmp_zero_left]
  exact ⟨rfl, rfl⟩

/-- For floating reps: NaN compares unequal and unordered; every other value compares as its sign. -/
theorem C19_compare_flt (u : UnitId) (f : FltTy) (x : FVal) (op : CmpOp) :
    binop (.cmp op) (.qty ⟨u, .flt f x⟩) .zero = .ok (.bool (x.signClass.cmp0 op)) ∧
    binop (.cmp op) .zero (.qty ⟨u, .flt f x⟩) = .ok (.bool (x.signClass.cmp0' op)) :=
  ⟨C19_compare u _ op, C19_compare_symm u _ op⟩

example : binop (.cmp .lt) (.qty ⟨7, .int .i8 (-128)⟩) .zero = .ok (.bool true) := by decide
example : binop (.cmp .ge) (.qty ⟨7, .flt .f32 (.fin true 0 0)⟩) .zero = .ok (.bool true) := by decide
example : binop (.cmp .ne) (.qty ⟨7, .flt .f80 .nan⟩) .zero = .ok (.bool true) := by decide
example : binop (.cmp .le) .zero (.qty ⟨7, .flt .f32 (.fin false 1 (-149))⟩) = .ok (.bool true) := by decide

/-- The Zero–Zero operators agree with comparing / adding the number 0 with itself. -/
theorem C19_zero_zero (op : CmpOp) :
    binop (.cmp op) .zero .zero = .ok (.bool (intCmp op 0 0)) ∧
    binop (.ar .add) .zero .zero = .ok .zero ∧ binop (.ar .sub) .zero .zero = .ok .zero := by
  cases op <;> exact ⟨rfl, rfl, rfl⟩

/-- **C19, `q + ZERO`, `q - ZERO`, `ZERO + q` for integer reps.**  Accepted, free of undefined
behaviour and of unsigned wrap-around, the result is a quantity of the same unit whose rep is the
promoted type (`decltype(Rep + Rep)`) and whose value is exactly the stored value. -/
theorem C19_add_sub_int (u : UnitId) (t : IntTy) (ht : t ∈ IntTy.all) (x : Int)
    (hx : t.inRange x) :
    binop (.ar .add) (.qty ⟨u, .int t x⟩) .zero = .ok (.qty ⟨u, .int t.promote x⟩) ∧
    binop (.ar .sub) (.qty ⟨u, .int t x⟩) .zero = .ok (.qty ⟨u, .int t.promote x⟩) ∧
    binop (.ar .add) .zero (.qty ⟨u, .int t x⟩) = .ok (.qty ⟨u, .int t.promote x⟩) :=
  have hv : (Val.int t x).wf := ⟨ht, hx⟩
  ⟨binop_ar_qty_zero u _ hv .add, binop_ar_qty_zero u _ hv .sub, binop_add_zero_qty u _ hv⟩

/-- **C19, `q + ZERO`, `q - ZERO`, `ZERO + q` for floating reps.**  The result has the same unit
and rep; `q - ZERO` is `q` bit for bit; `q + ZERO` and `ZERO + q` are `q` bit for bit except that
`-0.0 + ZERO` is `+0.0` (IEEE), which compares equal to `-0.0`.  NaN stays NaN, ±inf stay ±inf. -/
theorem C19_add_sub_flt (u : UnitId) (f : FltTy) (x : FVal) (hx : x.wf f) :
    binop (.ar .sub) (.qty ⟨u, .flt f x⟩) .zero = .ok (.qty ⟨u, .flt f x⟩) ∧
    binop (.ar .add) (.qty ⟨u, .flt f x⟩) .zero
      = .ok (.qty ⟨u, .flt f (if x = .fin true 0 0 then .fin false 0 0 else x)⟩) ∧
    binop (.ar .add) .zero (.qty ⟨u, .flt f x⟩)
      = .ok (.qty ⟨u, .flt f (if x = .fin true 0 0 then .fin false 0 0 else x)⟩) :=
  ⟨binop_ar_qty_zero u (.flt f x) hx .sub, binop_ar_qty_zero u (.flt f x) hx .add,
    binop_add_zero_qty u (.flt f x) hx⟩

/-- The rep of `q ± ZERO`. -/
def sumRep : Rep → Rep
  | .int t => .int t.promote
  | .flt f => .flt f

theorem plus0_sameNumber (o : ArOp) (v : Val) : sameNumber (v.plus0 o) v := by
  cases v with
  | int t x => rfl
  | flt f x =>
    rcases plus0_flt o f x with h | ⟨-, rfl, h⟩ <;> rw [h]
    · exact ⟨rfl, .inl rfl⟩
    · exact ⟨rfl, .inr ⟨rfl, rfl⟩⟩

/-- **C19, addition (all reps, one statement).**  For every value an object of the rep can hold,
`q + ZERO`, `q - ZERO` and `ZERO + q` are accepted, are quantities of the same unit, have rep
`decltype(Rep ± Rep)` and hold the same number as `q`. -/
theorem C19_add_sub (u : UnitId) (v : Val) (hv : v.wf) (lhs rhs : Value) (o : ArOp)
    (h : (lhs = .qty ⟨u, v⟩ ∧ rhs = .zero) ∨ (lhs = .zero ∧ rhs = .qty ⟨u, v⟩ ∧ o = .add)) :
    ∃ w : Val, binop (.ar o) lhs rhs = .ok (.qty ⟨u, w⟩) ∧ w.rep = sumRep v.rep ∧
      sameNumber w v := by
  refine ⟨v.plus0 o, ?_, by cases v <;> rfl, plus0_sameNumber o v⟩
  rcases h with ⟨rfl, rfl⟩ | ⟨rfl, rfl, rfl⟩
  · exact binop_ar_qty_zero u v hv o
  · exact binop_add_zero_qty u v hv

example : binop (.ar .add) (.qty ⟨2, .int .u8 255⟩) .zero = .ok (.qty ⟨2, .int .i32 255⟩) := by decide
example : binop (.ar .sub) (.qty ⟨2, .int .i64 (-9223372036854775808)⟩) .zero
    = .ok (.qty ⟨2, .int .i64 (-9223372036854775808)⟩) := by decide
example : binop (.ar .add) (.qty ⟨2, .flt .f32 (.fin true 0 0)⟩) .zero
    = .ok (.qty ⟨2, .flt .f32 (.fin false 0 0)⟩) := by decide
example : (Val.flt .f32 (.fin false 16777215 104)).wf := by decide
example : (Val.flt .f64 (.fin true 1 (-1074))).wf := by decide

/-- The literal reading "`(q + ZERO) == q` is true" of the property's addition clause. -/
def C19_add_eq_full : Prop :=
  ∀ (u : UnitId) (v : Val), v.wf → ∀ w, binop (.ar .add) (.qty ⟨u, v⟩) .zero = .ok (.qty ⟨u, w⟩) →
    numEq w v = true

/-- It is false exactly because IEEE NaN is unequal to itself: no implementation of `+` could
satisfy it. -/
theorem C19_add_eq_counterexample : ¬ C19_add_eq_full := by
  intro h
  have := h 0 (.flt .f64 .nan) (by decide) (.flt .f64 .nan) (by decide)
  exact absurd this (by decide)

/-- … and it holds for every value that is not NaN (integers of every rep; ±inf, ±0, normal and
subnormal floats), for `+` and `-` alike. -/
theorem C19_add_eq_partial (u : UnitId) (v : Val) (hv : v.wf) (hn : v.signClass ≠ .nan)
    (o : ArOp) (w : Val) (h : binop (.ar o) (.qty ⟨u, v⟩) .zero = .ok (.qty ⟨u, w⟩)) :
    numEq w v = true := by
  rw [binop_ar_qty_zero u v hv o] at h
  cases h
  cases v with
  | int t x => simp [numEq, Val.plus0]
  | flt f x =>
    -- the split of `plus0_sameNumber` again: getting `numEq` from `sameNumber` instead would need
    -- both zero-class floats spelled out (`m = 0` twice), which is longer than these lines
    rcases plus0_flt o f x with h | ⟨-, rfl, h⟩ <;> rw [h]
    · simpa [numEq] using fEq_self (x := x) hn
    · simp [numEq, fEq, scaled_zero]

example : numEq (.flt .f32 (.fin false 0 0)) (.flt .f32 (.fin true 0 0)) = true := by decide

/-- The number 0 in rep `r`, as a statement-level predicate. -/
def isExactZero (r : Rep) (v : Val) : Prop := v.rep = r ∧ v.signClass = .zero ∧ v.wf

theorem lit0_exactZero {r : Rep} (hr : r ∈ Rep.all) : isExactZero r (lit0 r) := by
  cases r with
  | int t =>
    have ht : t ∈ IntTy.all := by simpa [Rep.all] using hr
    exact ⟨rfl, rfl, ht, lo_nonpos t ht, hi_nonneg t ht⟩
  | flt f => exact ⟨rfl, rfl, by simp [lit0, Val.wf, FVal.wf]⟩

/-- **C19, initialisation.**  At every kind of site that requires a `Quantity<U, R>`, `ZERO` is
accepted and the resulting quantity, read back in its own unit, is the number 0 of the rep
(`+0.0` for floating reps); it compares equal to ZERO. -/
theorem C19_init (s : Site) (u : UnitId) (r : Rep) (hr : r ∈ Rep.all) :
    ∃ q : Qty, atSite s (.qty u r) = .ok (.qty q) ∧ q.unit = u ∧ q.inOwnUnit = lit0 r ∧
      isExactZero r q.inOwnUnit ∧
      binop (.cmp .eq) (.qty q) .zero = .ok (.bool true) := by
  refine ⟨⟨u, lit0 r⟩, rfl, rfl, rfl, lit0_exactZero hr, ?_⟩
  rw [C19_compare]
  cases r <;> rfl

/-- **C19, arithmetic types and chrono durations.**  `ZERO` converts to every arithmetic rep as
the number 0 of that rep, and to `std::chrono::duration<Rep, std::ratio<num, den>>` — for every
rep and every period — as the duration whose count is the number 0 of the rep. -/
theorem C19_arith_and_chrono_zero (r : Rep) (hr : r ∈ Rep.all) (num den : Nat) :
    convertZero (.arith r) = .ok (.arith (lit0 r)) ∧
    convertZero (.duration r num den) = .ok (.duration num den (lit0 r)) ∧
    isExactZero r (lit0 r) :=
  ⟨rfl, rfl, lit0_exactZero hr⟩

example : convertZero (.arith (.int .u64)) = .ok (.arith (.int .u64 0)) := by decide
example : convertZero (.duration (.flt .f32) 1 1000) = .ok (.duration 1 1000 (.flt .f32 (.fin false 0 0))) := by
  decide

/-- **C19, negative half (gate table).**  Wherever a `QuantityPoint<U, R>` is required — each kind
of initialisation, assignment, argument, return value, cast, either operand of the six same-type
comparisons, the minuend of point − point — supplying `ZERO` selects the deleted constructor
`QuantityPoint(Zero)`: the program is ill-formed, for every unit, rep and value. -/
theorem C19_point_rejected (u : UnitId) (r : Rep) :
    (∀ s : Site, atSite s (.point u r) = .hard .deleted) ∧
    (∀ (op : CmpOp) (v : Val), binop (.cmp op) (.point ⟨u, v⟩) .zero = .hard .deleted ∧
        binop (.cmp op) .zero (.point ⟨u, v⟩) = .hard .deleted) ∧
    (∀ v : Val, binop (.ar .sub) .zero (.point ⟨u, v⟩) = .hard .deleted) :=
  ⟨fun _ => rfl, fun _ _ => ⟨rfl, rfl⟩, fun _ => rfl⟩

/-- Corollary of the first clause in the form `≠ .ok v`. -/
theorem C19_point_never_ok (s : Site) (u : UnitId) (r : Rep) (v : Value) :
    atSite s (.point u r) ≠ .ok v := by
  rw [(C19_point_rejected u r).1 s]; exact fun h => nomatch h

/-- The same sites accept ZERO for a quantity (the rejection is specific to points). -/
example : atSite .argument (.qty 3 (.int .i16)) = .ok (.qty ⟨3, .int .i16 0⟩) := by decide
example : atSite .argument (.point 3 (.int .i16)) = .hard .deleted := by decide

/-- The conversion back to `Rep` in compound assignment and in the `Diff` slot of a point. -/
theorem castTo_plus0 (o : ArOp) {v : Val} (hv : v.wf) :
    ∃ w, castTo v.rep (v.plus0 o) = some w ∧ w.rep = v.rep ∧ sameNumber w v ∧
      (w = v ∨ (o = .add ∧ v.signClass = .zero)) := by
  cases v with
  | int t x =>
    exact ⟨.int t x, by simp [castTo, Val.rep, Val.plus0, wrap_of_inRange t hv.1 x hv.2], rfl, rfl, .inl rfl⟩
  | flt f x =>
    refine ⟨(Val.flt f x).plus0 o, by simp [castTo, Val.rep, Val.plus0], rfl, plus0_sameNumber o _, ?_⟩
    rcases plus0_flt o f x with h | ⟨ho, rfl, -⟩
    · exact .inl h
    · exact .inr ⟨ho, rfl⟩

/-- **C19, compound assignment.**  `q += ZERO` and `q -= ZERO` are accepted (the operand slot is
a `Quantity`, filled through `Quantity(Zero)`), free of UB and wrap, and leave a quantity of the
same unit *and the same rep* holding the same number: bit-identical for integers and for `-=`;
`+=` turns `-0.0` into `+0.0`. -/
theorem C19_compound (u : UnitId) (v : Val) (hv : v.wf) (o : ArOp) :
    ∃ w : Val, compoundWithZero o ⟨u, v⟩ = .ok (.qty ⟨u, w⟩) ∧ w.rep = v.rep ∧ sameNumber w v ∧
      (w = v ∨ (o = .add ∧ v.signClass = .zero)) := by
  obtain ⟨w, hc, h⟩ := castTo_plus0 o hv
  exact ⟨w, by simp [compoundWithZero_eq, qtyCompound, valArith_lit0_right o hv, hc], h⟩

example : compoundWithZero .add ⟨4, .int .i8 (-128)⟩ = .ok (.qty ⟨4, .int .i8 (-128)⟩) := by decide
example : compoundWithZero .sub ⟨4, .flt .f32 (.fin true 0 0)⟩ = .ok (.qty ⟨4, .flt .f32 (.fin true 0 0)⟩) := by
  decide

/-- **C19, reading the value back.**  All four spellings of "the value in the quantity's own unit"
(`in(u)`, `in(maker)`, `in<Rep>(u)`, `data_in(u)`) return the stored value. -/
theorem C19_read_back (u : UnitId) (v : Val) (hv : v.wf) :
    (⟨u, v⟩ : Qty).inOwnUnit = v ∧ (⟨u, v⟩ : Qty).inViaMaker = v ∧ (⟨u, v⟩ : Qty).dataIn = v ∧
    (⟨u, v⟩ : Qty).inRepExplicit = some v := by
  refine ⟨rfl, rfl, rfl, ?_⟩
  cases v with
  | int t x => simp [Qty.inRepExplicit, Val.rep, castTo, wrap_of_inRange t hv.1 x hv.2]
  | flt f x => simp [Qty.inRepExplicit, Val.rep, castTo]

/-- For a quantity initialised from `ZERO` all four return the exact zero of the rep. -/
theorem C19_init_read_back (s : Site) (u : UnitId) (r : Rep) (hr : r ∈ Rep.all) :
    ∃ q : Qty, atSite s (.qty u r) = .ok (.qty q) ∧ q.inOwnUnit = lit0 r ∧ q.inViaMaker = lit0 r ∧
      q.dataIn = lit0 r ∧ q.inRepExplicit = some (lit0 r) := by
  obtain ⟨-, -, hwf⟩ := lit0_exactZero hr
  obtain ⟨-, -, -, hrep⟩ := C19_read_back u (lit0 r) hwf
  exact ⟨⟨u, lit0 r⟩, rfl, rfl, rfl, rfl, hrep⟩

example : (⟨1, .int .u16 65535⟩ : Qty).inRepExplicit = some (.int .u16 65535) := by decide

/-- **C19, the point side beyond rejection.**  `p + ZERO` and `ZERO + p` are accepted — the other
operand of the point's `operator+` is a *quantity* (`Diff`) slot — and give a point of the same
unit and the same rep holding the same number (`-0.0` becomes `+0.0`). -/
theorem C19_point_plus_zero (u : UnitId) (v : Val) (hv : v.wf) (dLeft : Bool) :
    ∃ w : Val, pointPlusZero dLeft ⟨u, v⟩ = .ok (.point ⟨u, w⟩) ∧ w.rep = v.rep ∧ sameNumber w v ∧
      (w = v ∨ v.signClass = .zero) := by
  obtain ⟨w, hc, h1, h2, h3⟩ := castTo_plus0 .add hv
  refine ⟨w, ?_, h1, h2, h3.imp id (·.2)⟩
  cases dLeft <;>
    simp [pointPlusZero_eq, ptPlusDiff, qtyFriend_ar_eq u (valArith_lit0_right .add hv),
      qtyFriend_ar_eq u (valArith_add_lit0_left hv), hc]

/-- The `binop` clause for `p + ZERO` yields the same number (it keeps the promoted rep of the
intermediate sum; `pointPlusZero` adds the conversion back to `Rep`). -/
theorem C19_point_plus_zero_binop (u : UnitId) (v : Val) (hv : v.wf) :
    ∃ w : Val, binop (.ar .add) (.point ⟨u, v⟩) .zero = .ok (.point ⟨u, w⟩) ∧ sameNumber w v ∧
    ∃ w' : Val, binop (.ar .add) .zero (.point ⟨u, v⟩) = .ok (.point ⟨u, w'⟩) ∧ sameNumber w' v := by
  refine ⟨v.plus0 .add, ?_, plus0_sameNumber _ v, v.plus0 .add, ?_, plus0_sameNumber _ v⟩
  · simp [binop, convertZero, qtyFriend_ar_eq u (valArith_lit0_right .add hv)]
  · simp [binop, convertZero, qtyFriend_ar_eq u (valArith_add_lit0_left hv)]

example : pointPlusZero false ⟨9, .int .u8 255⟩ = .ok (.point ⟨9, .int .u8 255⟩) := by decide
example : pointPlusZero true ⟨9, .flt .f64 (.inf true)⟩ = .ok (.point ⟨9, .flt .f64 (.inf true)⟩) := by decide

/-- "`ZERO - q` is `-q` without undefined behaviour", for every value. -/
def C19_zero_minus_full : Prop :=
  ∀ (u : UnitId) (v : Val), v.wf → ∃ w, binop (.ar .sub) .zero (.qty ⟨u, v⟩) = .ok (.qty ⟨u, w⟩)

/-- False: `ZERO - q` at the minimum of a 32/64-bit signed rep is `0 - INT_MIN` (signed overflow).
Inherent to two's complement negation; the statement of C19 does not name this expression. -/
theorem C19_zero_minus_counterexample : ¬ C19_zero_minus_full := by
  intro h
  obtain ⟨w, hw⟩ := h 0 (.int .i32 (-2147483648)) (by decide)
  have e : binop (.ar .sub) .zero (.qty ⟨0, .int .i32 (-2147483648)⟩)
      = .ub "signed overflow in subtraction" := by decide
  rw [e] at hw
  cases hw

/-- Everywhere else `ZERO - q` is accepted and is exactly `-q` in `decltype(R - R)`: integers whose
promoted type is signed, except that type's minimum; every float (`(+0.0) - (+0.0) = +0.0`). -/
theorem C19_zero_minus_partial (u : UnitId) :
    (∀ (t : IntTy) (x : Int), t ∈ IntTy.all → t.inRange x → t.promote.signed = true → x ≠ t.promote.lo →
      binop (.ar .sub) .zero (.qty ⟨u, .int t x⟩) = .ok (.qty ⟨u, .int t.promote (-x)⟩)) ∧
    (∀ (f : FltTy) (x : FVal), x.wf f →
      binop (.ar .sub) .zero (.qty ⟨u, .flt f x⟩)
        = .ok (.qty ⟨u, .flt f (if x = .fin false 0 0 then .fin false 0 0 else fNeg x)⟩)) := by
  constructor
  · intro t x ht hx hs hm
    exact (binop_zero_qty _ _).trans (qtyFriend_ar_eq u (valArith_sub_lit0_int ht hx hs hm))
  · intro f x hx
    exact (binop_zero_qty _ _).trans (qtyFriend_ar_eq u (valArith_sub_lit0_flt hx))

example : binop (.ar .sub) .zero (.qty ⟨1, .int .i8 (-128)⟩) = .ok (.qty ⟨1, .int .i32 128⟩) := by decide
example : binop (.ar .sub) .zero (.qty ⟨1, .int .i64 (-9223372036854775808)⟩)
    = .ub "signed overflow in subtraction" := by decide

/-! ## Unit independence

`ZERO` never needs a unit conversion: in the model the unit is an identifier that the anchored code
only carries along.  Every expression mixing `ZERO` with one quantity or point commutes with an
arbitrary relabelling of units, so no property of the unit (dimension, magnitude, origin) can
influence the result and no magnitude is ever applied: nothing can overflow or truncate. -/

def relabelValue (g : UnitId → UnitId) : Value → Value
  | .qty q => .qty ⟨g q.unit, q.val⟩
  | .point p => .point ⟨g p.unit, p.val⟩
  | v => v

def relabelOutcome (g : UnitId → UnitId) : Outcome → Outcome
  | .ok v => .ok (relabelValue g v)
  | o => o

def relabelTy (g : UnitId → UnitId) : Ty → Ty
  | .qty u r => .qty (g u) r
  | .point u r => .point (g u) r
  | t => t

/-- Conversion of `ZERO` at a site: the unit of the target type is only carried along. -/
theorem C19_unit_independent_convert (g : UnitId → UnitId) (s : Site) (t : Ty) :
    atSite s (relabelTy g t) = relabelOutcome g (atSite s t) := by
  cases t <;> rfl

theorem qtyFriend_relabel (g : UnitId → UnitId) (op : BinOp) (u : UnitId) (a b : Val) :
    qtyFriend op ⟨g u, a⟩ ⟨g u, b⟩ = relabelOutcome g (qtyFriend op ⟨u, a⟩ ⟨u, b⟩) := by
  unfold qtyFriend
  simp only [if_true]
  cases op with
  | cmp c =>
    dsimp only
    cases valCmp c a b <;> rfl
  | ar o =>
    dsimp only
    cases valArith o a b with
    | none => rfl
    | some e => cases e <;> rfl

theorem qtyCompound_relabel (g : UnitId → UnitId) (o : ArOp) (u : UnitId) (a b : Val) :
    qtyCompound o ⟨g u, a⟩ ⟨g u, b⟩ = relabelOutcome g (qtyCompound o ⟨u, a⟩ ⟨u, b⟩) := by
  simp only [qtyCompound, if_true]
  cases valArith o a b with
  | none => rfl
  | some e =>
    cases e with
    | ub _ => rfl
    | ok w =>
      dsimp only
      cases castTo a.rep w <;> rfl

/-- The sum of the friend, turned into something else by a step `k` that only carries the unit
along (a point; a point after the cast back to `Rep`), commutes with relabelling. -/
theorem friendSum_relabel (g : UnitId → UnitId) (u : UnitId) (a b : Val)
    (k : UnitId → Val → Zero.Outcome) (hk : ∀ u w, k (g u) w = relabelOutcome g (k u w)) :
    (match qtyFriend (.ar .add) ⟨g u, a⟩ ⟨g u, b⟩ with
      | .ok (.qty s) => k s.unit s.val
      | o => o) =
    relabelOutcome g (match qtyFriend (.ar .add) ⟨u, a⟩ ⟨u, b⟩ with
      | .ok (.qty s) => k s.unit s.val
      | o => o) := by
  rw [qtyFriend_relabel]
  cases qtyFriend (.ar .add) ⟨u, a⟩ ⟨u, b⟩ with
  | ub _ => rfl
  | hard _ => rfl
  | ok v =>
    cases v with
    | qty s => exact hk s.unit s.val
    | _ => rfl

theorem ptPlusDiff_relabel (g : UnitId → UnitId) (dLeft : Bool) (u : UnitId) (a b : Val) :
    ptPlusDiff dLeft ⟨g u, a⟩ ⟨g u, b⟩ = relabelOutcome g (ptPlusDiff dLeft ⟨u, a⟩ ⟨u, b⟩) := by
  let k : UnitId → Val → Zero.Outcome := fun u w =>
    match castTo a.rep w with
    | some w' => .ok (.point ⟨u, w'⟩)
    | none => .hard .noMatch
  have hk : ∀ u w, k (g u) w = relabelOutcome g (k u w) := fun u w => by
    dsimp only [k]
    cases castTo a.rep w <;> rfl
  cases dLeft with
  | false => exact friendSum_relabel g u a b k hk
  | true => exact friendSum_relabel g u b a k hk

/-- **C19, unit independence.**  For every relabelling `g` of units, every operator and value:
`q op ZERO`, `ZERO op q`, `q ± ZERO`, `ZERO ± q`, `p + ZERO`, `ZERO + p` and the (rejected) point
comparisons give, for unit `g u`, exactly the outcome for unit `u` relabelled. -/
theorem C19_unit_independent (g : UnitId → UnitId) (op : BinOp) (u : UnitId) (v : Val) :
    binop op (.qty ⟨g u, v⟩) .zero = relabelOutcome g (binop op (.qty ⟨u, v⟩) .zero) ∧
    binop op .zero (.qty ⟨g u, v⟩) = relabelOutcome g (binop op .zero (.qty ⟨u, v⟩)) ∧
    binop op (.point ⟨g u, v⟩) .zero = relabelOutcome g (binop op (.point ⟨u, v⟩) .zero) ∧
    binop op .zero (.point ⟨g u, v⟩) = relabelOutcome g (binop op .zero (.point ⟨u, v⟩)) := by
  -- `p + ZERO`, `ZERO + p`: the sum of the friend, turned back into a point
  let toPt : UnitId → Val → Zero.Outcome := fun u w => .ok (.point ⟨u, w⟩)
  refine ⟨qtyFriend_relabel g op u v _, qtyFriend_relabel g op u _ v, ?_, ?_⟩
  · cases op with
    | cmp c => rfl
    | ar o =>
      cases o with
      | add => exact friendSum_relabel g u v _ toPt fun _ _ => rfl
      | sub => rfl
  · cases op with
    | cmp c => rfl
    | ar o =>
      cases o with
      | add => exact friendSum_relabel g u _ v toPt fun _ _ => rfl
      | sub => rfl

/-- The same for the compound assignments and for `p + ZERO`, `ZERO + p` with the conversion back to
`Rep`. -/
theorem C19_unit_independent_extra (g : UnitId → UnitId) (o : ArOp) (u : UnitId) (v : Val) (dLeft : Bool) :
    compoundWithZero o ⟨g u, v⟩ = relabelOutcome g (compoundWithZero o ⟨u, v⟩) ∧
    pointPlusZero dLeft ⟨g u, v⟩ = relabelOutcome g (pointPlusZero dLeft ⟨u, v⟩) :=
  ⟨qtyCompound_relabel g o u v _, ptPlusDiff_relabel g dLeft u v _⟩

/-- Non-vacuity: a relabelling that is not even injective. -/
example : binop (.cmp .lt) (.qty ⟨(fun _ => 7) 3, .int .i8 (-1)⟩) .zero
    = relabelOutcome (fun _ => 7) (binop (.cmp .lt) (.qty ⟨3, .int .i8 (-1)⟩) .zero) := by decide

end Au
