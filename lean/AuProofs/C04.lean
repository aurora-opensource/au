import AuProofs.Lemmas.ApplyMag
namespace Au
open IntTy

/-- Statement-level predicate of C04: the exact scaled value `x·N/D` lies in `T`'s range, and the
intermediate product by the numerator lies in the promoted type's range. -/
def ExactFits (t : IntTy) (N D : Nat) (x : Int) : Prop :=
  (t.lo * D ≤ x * N ∧ x * N ≤ t.hi * D) ∧ t.promote.inRange (x * N)
instance (t : IntTy) (N D : Nat) (x : Int) : Decidable (ExactFits t N D x) := by
  unfold ExactFits; infer_instance

/-- Right-to-left half of `applyMag_clean_iff` under `ExactFits`. -/
theorem applyMag_of_fits (t : IntTy) (ht : t ∈ IntTy.all) (N D : Nat) (hD : 0 < D)
    (x : Int) (hfit : ExactFits t N D x) :
    applyMag t N D x = ⟨.ok (Int.tdiv (x * N) D), false, false⟩ ∧ t.inRange (Int.tdiv (x * N) D) :=
  have hq := tdiv_inRange t D hD (x * N) hfit.1
  ⟨(applyMag_clean_iff t ht N D hD x _ fun h => by simpa [h] using hfit.2).2 ⟨hfit.2, hq, rfl⟩, hq⟩

/-- **C04, overflow clause.**  `will_conversion_overflow` is true exactly when the exact result `x·N/D` leaves the range
of `T` or the product `x·N` leaves the range of the promoted type. -/
theorem C04_overflow_iff (t : IntTy) (ht : t ∈ IntTy.all) (N D : Nat) (hN : 0 < N) (hD : 0 < D)
    (hc : compiles t N D = true) (x : Int) (hx : t.inRange x) :
    wouldOverflow t N D x = true ↔ ¬ ExactFits t N D x := by
  have hplo := promote_lo t ht
  have hphi := promote_hi t ht
  unfold wouldOverflow ExactFits
  cases hcat : categorize N D with
  | intMul =>
    obtain rfl := cat_intMul hcat
    have hn : (N : Int) ≤ t.hi := by
      unfold compiles at hc; rw [hcat] at hc; exact (gvInt_isSome _ _).1 hc
    dsimp only
    rw [wouldProductOverflow_iff t ht N hN hn x]
    simp only [IntTy.inRange, Int.natCast_one, Int.mul_one]
    omega
  | intDiv =>
    -- nothing is reported, and nothing can overflow: `lo·D ≤ lo ≤ x ≤ hi ≤ hi·D`
    obtain rfl := (cat_intDiv hcat).1
    have h2 : t.hi * 1 ≤ t.hi * D := Int.mul_le_mul_of_nonneg_left (by omega) (hi_nonneg t ht)
    have h1 : -t.lo * 1 ≤ -t.lo * D := Int.mul_le_mul_of_nonneg_left (by omega) (by have := lo_nonpos t ht; omega)
    rw [Int.neg_mul, Int.neg_mul] at h1
    have := hx.1; have := hx.2
    simp only [IntTy.inRange, Int.natCast_one, Int.mul_one, Bool.false_eq_true, false_iff, Decidable.not_not]
    omega
  | rational =>
    obtain ⟨hn, hd⟩ := compiles_rational t N D hcat hc
    dsimp only
    cases hs : t.signed with
    | true =>
      simp only [if_true, Bool.not_eq_true', Bool.and_eq_false_iff, decide_eq_false_iff_not, ge_iff_le]
      rw [le_maxNonOverflowing_iff t ht N D hN hn hd x hx, minNonOverflowing_le_iff t ht hs N D hN hn hd x hx]
      unfold IntTy.inRange
      omega
    | false =>
      simp only [Bool.false_eq_true, if_false, Bool.not_eq_true', decide_eq_false_iff_not]
      rw [le_maxNonOverflowing_iff t ht N D hN hn hd x hx, unsigned_lo t hs]
      have : 0 ≤ x * N := Int.mul_nonneg (by have := hx.1; rw [unsigned_lo t hs] at this; exact this) (by omega)
      have := lo_nonpos _ (promote_mem t ht)
      unfold IntTy.inRange
      omega

/-- Statement-level predicate: the exact scaled value `x·N/D` is an integer. -/
def ExactInteger (N D : Nat) (x : Int) : Prop := (D : Int) ∣ x * N

/-- Soundness direction, no hypothesis at all: whenever the checker says "no truncation" the exact
value is an integer. -/
theorem C04_truncate_sound (t : IntTy) (N D : Nat) (x : Int)
    (h : wouldTruncate t N D x = false) : ExactInteger N D x := by
  unfold ExactInteger
  unfold wouldTruncate at h
  cases hcat : categorize N D with
  | intMul => rw [cat_intMul hcat]; exact Int.one_dvd _
  | intDiv => rw [hcat] at h; exact Int.dvd_mul_of_dvd_left (truncChecker_sound t D x h)
  | rational => rw [hcat] at h; exact Int.dvd_mul_of_dvd_left (truncChecker_sound t.promote D x h)

/-- **C04, truncation clause (full strength).**  For every integral rep, every coprime `N/D` for
which the conversion compiles and every value, `will_conversion_truncate` is true exactly when
`x·N/D` is not an integer.  (The model follows the fixed code, which checks in the promoted type: finding F8.) -/
theorem C04_truncate_iff (t : IntTy) (N D : Nat) (hcop : Nat.Coprime D N)
    (hc : compiles t N D = true) (x : Int) :
    wouldTruncate t N D x = true ↔ ¬ ExactInteger N D x := by
  unfold ExactInteger
  rw [dvd_mul_coprime D N x hcop]
  unfold wouldTruncate
  unfold compiles at hc
  cases hcat : categorize N D with
  | intMul =>
    rw [cat_intMul hcat]
    simp [Int.one_dvd]
  | intDiv =>
    rw [hcat] at hc
    exact truncChecker_iff t D x ((gvInt_isSome _ _).1 hc)
  | rational =>
    rw [hcat] at hc
    simp only [Bool.and_eq_true] at hc
    exact truncChecker_iff t.promote D x ((gvInt_isSome _ _).1 hc.2)

/-- Guards finding F8 (`int8_t`, x = −128, 3/128 and its 16-bit analogue): the model follows the fixed code. -/
theorem C04_F8_fixed : wouldTruncate i8 3 128 (-128) = false ∧ wouldTruncate i16 5 32768 (-32768) = false := by
  decide

/-- **C04.**  `is_conversion_lossy` is the disjunction of the two checkers. -/
theorem C04_lossy_eq_or (t : IntTy) (N D : Nat) (x : Int) :
    isLossy t N D x = (wouldTruncate t N D x || wouldOverflow t N D x) := rfl

/-- No false alarm: a conversion whose exact result is representable and computable is never
reported lossy. -/
theorem C04_no_false_alarm (t : IntTy) (ht : t ∈ IntTy.all) (N D : Nat) (hN : 0 < N) (hD : 0 < D)
    (hcop : Nat.Coprime D N) (hc : compiles t N D = true) (x : Int) (hx : t.inRange x)
    (hfit : ExactFits t N D x) (hint : ExactInteger N D x) :
    isLossy t N D x = false := by
  unfold isLossy
  rw [Bool.eq_false_iff.2 fun h => (C04_overflow_iff t ht N D hN hD hc x hx).1 h hfit,
    Bool.eq_false_iff.2 fun h => (C04_truncate_iff t N D hcop hc x).1 h hint]
  rfl

/-- Non-vacuity: the hypotheses are met by a non-trivial instance (int16, 5/3, x = 6000). -/
example : i16 ∈ IntTy.all ∧ compiles i16 5 3 = true ∧ i16.inRange 6000 ∧ Nat.Coprime 3 5 ∧
    ExactFits i16 5 3 6000 ∧ ExactInteger 5 3 6000 ∧ isLossy i16 5 3 6000 = false := by
  refine ⟨by decide, by decide, by decide, by decide, by decide, ⟨10000, by decide⟩, by decide⟩

end Au
