import AuModel.Constant
import AuProofs.C11
namespace Au
open IntTy

/-! # C16 — constants convert exactly or not at all (integral types proved, floating types by
correspondence with the bit-exact float model) -/

/-- **Availability.**  For integral `T`, `can_store_value_in<T>(u)` holds exactly when the exact
ratio `C/u` is an integer that fits `T`. -/
theorem C16_available_iff (t : IntTy) (ht : t ∈ IntTy.all) (ratio : Mag)
    (hpos : ∀ a ∈ ratio, ∀ p, a.1 = .prime p → 1 ≤ p) :
    canStoreInt t ratio = true ↔ (Mag.isIntegerMag ratio = true ∧ Mag.natValue ratio ≤ t.hi) := by
  rw [canStoreInt, getValueResultInt_closed t ht ratio hpos]
  cases Mag.isIntegerMag ratio with
  | false => simp
  | true => by_cases h : Mag.natValue ratio ≤ t.hi <;> simp [h]

/-- **Exactness.**  Whenever it is available, `C.in<T>(u)` is exactly the ratio: the promoted product
`1 · k` is in range, nothing wraps, nothing is narrowed. -/
theorem C16_value_exact (t : IntTy) (ht : t ∈ IntTy.all) (ratio : Mag)
    (hpos : ∀ a ∈ ratio, ∀ p, a.1 = .prime p → 1 ≤ p) (h : canStoreInt t ratio = true) :
    constantInInt t ratio = some ⟨.ok (Mag.natValue ratio), false, false⟩ := by
  obtain ⟨hi, hle⟩ := (C16_available_iff t ht ratio hpos).1 h
  have hg := (C11_integral t ht ratio hpos (Mag.natValue ratio)).2 ⟨hi, hle, rfl⟩
  have hk1 := natValue_ge_one ratio (intElem_of_isInteger ratio hpos hi)
  have hk : ((Mag.natValue ratio).toNat : Int) = Mag.natValue ratio := by omega
  have hlo := lo_nonpos t ht
  -- `T{1} * k`: the product, the quotient by 1 and the result are all `k`
  have hr : t.inRange (Mag.natValue ratio) := ⟨by omega, hle⟩
  have h1 : t.inRange 1 := ⟨by omega, by omega⟩
  unfold constantInInt
  rw [hg]
  simp only []
  refine congrArg some ((applyMag_clean_iff t ht _ 1 (by decide) 1 _ fun _ => promote_inRange t ht 1 h1).2 ?_)
  rw [Int.one_mul, hk, Int.natCast_one, Int.tdiv_one]
  exact ⟨promote_inRange t ht _ hr, hr, rfl⟩

/-- Non-vacuity / sensitivity: the speed of light in m/s fits `int32_t`, not `int16_t`. -/
example : canStoreInt i32 [(.prime 2, 1), (.prime 7, 1), (.prime 73, 1), (.prime 293339, 1)] = true ∧
    canStoreInt i16 [(.prime 2, 1), (.prime 7, 1), (.prime 73, 1), (.prime 293339, 1)] = false := by
  decide +kernel

end Au
