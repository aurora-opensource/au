import AuProofs.Lemmas.GetValue
import Mathlib.Tactic.Linarith
import AuProofs.Lemmas.MagValue
/-! # C11 — classification traits of magnitudes

`IsInteger`, `IsRational`, `numerator`, `denominator` as the library defines them (through
`IntegerPartT` and type identity) characterised by the exponents: the C11 clause "is_integer,
is_rational, numerator, denominator, integer_part … classify and split the exact value correctly". -/
namespace Au
open Pack

theorem filterMap_eq_self_iff {α : Type} (f : α → Option α) : ∀ l : List α, l.filterMap f = l ↔ ∀ a ∈ l, f a = some a
  | [] => by simp
  | a :: t => by
    rw [List.filterMap_cons, List.forall_mem_cons]
    cases hfa : f a with
    | none =>
      -- what is left of `t` is too short to be `a :: t`
      have := List.length_filterMap_le f t
      exact ⟨fun h => by
        have := congrArg List.length (show List.filterMap f t = a :: t from h)
        rw [List.length_cons] at this; omega, fun h => nomatch h.1⟩
    | some b => simp only [List.cons.injEq, Option.some.injEq, filterMap_eq_self_iff f t]

/-- The per-element function of `IntegerPartT`. -/
def ipElem (a : MagBase × Rat) : Option (MagBase × Rat) :=
  match a.1 with
  | .prime p =>
    let n := a.2.num; let d : Int := a.2.den
    let k : Int := if n ≥ d then Int.tdiv n d else 0
    if k = 0 then none else some (.prime p, (k : Rat))
  | .pi => none

theorem integerPart_unfold (m : Mag) : Mag.integerPart m = m.filterMap ipElem := rfl

theorem ipElem_prime (p : Nat) (e : Rat) :
    ipElem (.prime p, e) =
      (if (if e.num ≥ (e.den : Int) then Int.tdiv e.num e.den else 0) = 0 then none
       else some (.prime p, (((if e.num ≥ (e.den : Int) then Int.tdiv e.num e.den else 0 : Int)) : Rat))) := rfl

theorem ipElem_some {a b : MagBase × Rat} (h : ipElem a = some b) : (∃ p, b.1 = .prime p) ∧ b.2.den = 1 := by
  obtain ⟨c, e⟩ := a
  cases c with
  | pi => cases h
  | prime p =>
    rw [ipElem_prime] at h
    generalize (if e.num ≥ (e.den : Int) then Int.tdiv e.num e.den else 0) = k at h
    by_cases hk : k = 0
    · rw [if_pos hk] at h; cases h
    · rw [if_neg hk] at h; cases h; exact ⟨⟨p, rfl⟩, Rat.den_intCast _⟩

theorem ipElem_eq_some_self_iff (a : MagBase × Rat) :
    ipElem a = some a ↔ (∃ p, a.1 = .prime p) ∧ a.2.den = 1 ∧ 1 ≤ a.2 := by
  constructor
  · intro h
    obtain ⟨hp, hden⟩ := ipElem_some h
    refine ⟨hp, hden, ?_⟩
    obtain ⟨c, e⟩ := a
    obtain ⟨p, rfl⟩ : ∃ p, c = .prime p := hp
    -- with denominator 1 the kept exponent is `e.num` if that is `≥ 1`, and nothing is kept otherwise
    refine (one_le_iff_of_den_one hden).2 ?_
    by_contra hlt
    rw [ipElem_prime, show e.den = 1 from hden, Nat.cast_one, Int.tdiv_one, if_neg hlt, if_pos rfl] at h
    cases h
  · rintro ⟨⟨p, hp⟩, hden, h1⟩
    obtain ⟨c, e⟩ := a
    obtain rfl : c = .prime p := hp
    have hn : e.num ≥ 1 := (one_le_iff_of_den_one hden).1 h1
    rw [ipElem_prime, show e.den = 1 from hden, Nat.cast_one, Int.tdiv_one, if_pos hn, if_neg (by omega),
      Rat.coe_int_num_of_den_eq_one hden]

/-- **`IsInteger<M>` (`M` is the same type as `IntegerPartT<M>`) is exactly the predicate the model's
`get_value` gate uses**: every base a prime, every exponent an integer ≥ 1. -/
theorem C11_isInteger_iff (m : Mag) : Mag.integerPart m = m ↔ Mag.isIntegerMag m = true := by
  rw [integerPart_unfold, filterMap_eq_self_iff, isIntegerMag_iff]
  exact forall₂_congr fun a _ => ipElem_eq_some_self_iff a

theorem numerator_valid (m : Mag) (hv : Valid MagBase.lt m) : Valid MagBase.lt (Mag.numerator m) :=
  ⟨hv.1.filter _, fun y hy => hv.2 y (List.mem_filter.1 hy).1⟩

/-- `numerator(m)` keeps exactly the positive exponents, `denominator(m)` the negated negative ones … -/
theorem C11_numerator_den (m : Mag) (hv : Valid MagBase.lt m) (x : MagBase) :
    den (Mag.numerator m) x = max (den m x) 0 := by
  unfold Mag.numerator
  rw [den_filter MagBase.lt_strictTotal (fun e => decide (0 < e)) m hv.1]
  by_cases h : 0 < den m x
  · rw [if_pos (decide_eq_true h), max_eq_left h.le]
  · rw [if_neg (by simpa using h), max_eq_right (not_lt.1 h)]

theorem C11_denominator_den (m : Mag) (hv : Valid MagBase.lt m) (x : MagBase) :
    den (Mag.denominator m) x = max (-(den m x)) 0 := by
  unfold Mag.denominator
  rw [C11_numerator_den _ (inv_valid hv), inv_den]

/-- … and together they split the magnitude: `m = numerator(m) / denominator(m)` as identical types. -/
theorem C11_num_den_split (m : Mag) (hv : Valid MagBase.lt m) :
    Mag.div (Mag.numerator m) (Mag.denominator m) = m := by
  have hst := MagBase.lt_strictTotal
  have hn := numerator_valid m hv
  have hd : Valid MagBase.lt (Mag.denominator m) := numerator_valid _ (inv_valid hv)
  unfold Mag.div
  apply canonical hst _ _ (div_valid hst _ _ hn hd) hv
  intro x
  rw [div_den hst _ _ hn.1 hd, C11_numerator_den m hv, C11_denominator_den m hv]
  rcases le_total (den m x) 0 with h | h
  · rw [max_eq_right h, max_eq_left (by linarith)]; ring
  · rw [max_eq_left h, max_eq_right (by linarith)]; ring

example : Mag.div (Mag.numerator [(.prime 2, 3), (.prime 5, -1)]) (Mag.denominator [(.prime 2, 3), (.prime 5, -1)]) =
    [(.prime 2, 3), (.prime 5, -1)] := by decide +kernel

/-- "Prime base, integer exponent" — the shape of every factor of a rational magnitude. -/
def RatElem (a : MagBase × Rat) : Prop := (∃ p, a.1 = .prime p) ∧ a.2.den = 1

theorem forall_ratElem_iff (m : Mag) : (∀ a ∈ m, RatElem a) ↔ Mag.PiFree m ∧ Mag.IntExp m := by
  constructor
  · intro h
    refine ⟨fun a ha hpi => ?_, fun a ha => (h a ha).2⟩
    obtain ⟨⟨p, hp⟩, -⟩ := h a ha
    rw [hp] at hpi
    cases hpi
  · rintro ⟨hfree, hint⟩ a ha
    refine ⟨?_, hint a ha⟩
    cases hb : a.1 with
    | prime p => exact ⟨p, rfl⟩
    | pi => exact absurd hb (hfree a ha)

theorem ratElem_mul (a b : Mag) (ha : ∀ y ∈ a, RatElem y) (hb : ∀ y ∈ b, RatElem y) :
    ∀ y ∈ mul MagBase.lt a b, RatElem y := by
  rw [forall_ratElem_iff] at ha hb ⊢
  exact ⟨piFree_mul ha.1 hb.1, intExp_mul ha.2 hb.2⟩

theorem ratElem_integerPart (m : Mag) : ∀ y ∈ Mag.integerPart m, RatElem y := by
  intro y hy
  rw [integerPart_unfold, List.mem_filterMap] at hy
  obtain ⟨a, _, hay⟩ := hy
  exact ipElem_some hay

theorem ratElem_inv (m : Mag) (h : ∀ y ∈ m, RatElem y) : ∀ y ∈ Pack.inv m, RatElem y := by
  rw [forall_ratElem_iff] at h ⊢
  exact ⟨piFree_pow h.1 _, by simpa [Pack.inv] using intExp_pow h.2 (-1)⟩

theorem integerPart_numerator (m : Mag) (h : ∀ a ∈ m, RatElem a) :
    Mag.integerPart (Mag.numerator m) = Mag.numerator m := by
  rw [C11_isInteger_iff, isIntegerMag_iff]
  intro a ha
  obtain ⟨ham, hpos⟩ := List.mem_filter.1 ha
  obtain ⟨hp, hd⟩ := h a ham
  have h0 : 0 < a.2.num := Rat.num_pos.2 (by simpa using hpos)
  exact ⟨hp, hd, (one_le_iff_of_den_one hd).2 h0⟩

/-- **`IsRational<M>`** (`M == IntegerPart(Numerator(M)) / IntegerPart(Denominator(M))`) holds exactly
when every base is a prime and every exponent an integer (no π, no roots), for every valid magnitude. -/
theorem C11_isRational_iff (m : Mag) (hv : Valid MagBase.lt m) :
    Mag.isRationalMag m = true ↔ ∀ a ∈ m, RatElem a := by
  unfold Mag.isRationalMag
  rw [decide_eq_true_eq]
  constructor
  · intro h
    rw [h]
    exact ratElem_mul _ _ (ratElem_integerPart _) (ratElem_inv _ (ratElem_integerPart _))
  · intro h
    rw [integerPart_numerator m h, show Mag.denominator m = Mag.numerator (Pack.inv m) from rfl,
      integerPart_numerator _ (ratElem_inv m h)]
    exact (C11_num_den_split m hv).symm

end Au
