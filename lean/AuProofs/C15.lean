import AuProofs.Lemmas.MathFn
import Generated.MathConsts
namespace Au
open Au.C15

/-! # C15 — unit-aware math functions -/

/-- Tie of the model's threshold literal to the source (regenerated every run). -/
theorem C15_threshold_tie : Generated.MathConsts.inverseThreshold = inverseThresholdLiteral := by decide

theorem C15_threshold_value : Generated.MathConsts.inverseThreshold = 1000000 := C15_threshold_tie

/-- The rep guard `static_assert(is_floating_point<R> || numeric_limits<R>::max() >= 1'000'000)` uses the same
literal: `thresholdOf` refuses exactly the integral reps that cannot hold it. -/
theorem C15_threshold_guard_tie : Generated.MathConsts.inverseRepGuard = inverseThresholdLiteral := by decide

/-- **C15, round trip (arithmetic statement)**: what the comment in `inverse_in` (math.hh:251-265)
promises of the threshold `1'000 ^ 2`, for every conversion constant `K` at or above it. -/
theorem C15_inverse_roundtrip (K n : Nat) (hK : 1000000 ≤ K) (h1 : 1 ≤ n) (h2 : n ≤ 1000) :
    K / (K / n) = n := by
  exact div_div_self K n (by omega) (sq_le_of_le_thousand hK h2)

/-- Non-vacuity / instance: kHz ↔ ns, `K = 10^6`, `n = 1000` (the extreme case of the comment). -/
example : 1000000 / (1000000 / 1000) = 1000 := by decide

/-- The threshold is sharp: one below it the promise of the source comment fails. -/
theorem C15_threshold_sharp : ¬ (∀ n : Nat, 1 ≤ n → n ≤ 1000 → 999999 / (999999 / n) = n) := by
  intro h
  have := h 1000 (by decide) (by decide)
  revert this
  decide

/-- **C15, inverse value.**  `inverse_in<T>(target, q)` (hence `inverse_as<T>`) of a non-zero stored
value is `trunc(K / x)`, without undefined behaviour, for every integral rep and every integer
constant `K` that fits it. -/
theorem C15_inverse_value (t : IntTy) (ht : t ∈ IntTy.all) (K : Mag) (hK : K.isInteger = true)
    (hpos : 0 < K.num) (hfit : (K.num : Int) ≤ t.hi) (x : Int) (hx : t.inRange x) (hx0 : x ≠ 0) :
    inverseIn (.int t) (.int t) K (.i x) = .ok (.i (Int.tdiv (K.num : Int) x)) := by
  have hp := promote_mem t ht
  -- the dividend `K` is positive, hence not the lowest value: the case `lo / -1` cannot occur
  have hdiv : divIn t.promote (K.num : Int) x = ⟨.ok (Int.tdiv (K.num : Int) x), false⟩ :=
    divIn_ok t.promote (K.num : Int) x hx0 fun h => by have := lo_nonpos _ hp; omega
  simp only [inverseIn, ArithTy.common, common_self, unityIn_ok t ht K hK hfit, Res.bind_ok, divide, uac_self,
    wrap_of_inRange _ hp _ (promote_inRange t ht _ (inRange_of_nat t ht _ hfit)),
    wrap_of_inRange _ hp _ (promote_inRange t ht x hx), hdiv, staticCast]
  -- the quotient lies between `-K` and `K`, and is non-negative for an unsigned rep
  have hb := Int.natAbs_tdiv_le_natAbs (K.num : Int) x
  have hr : t.inRange (Int.tdiv (K.num : Int) x) := by
    rcases lo_eq t ht with h0 | h1
    · have := Int.tdiv_nonneg (a := (K.num : Int)) (b := x) (by omega) (by have := hx.1; omega)
      exact ⟨by omega, by omega⟩
    · exact ⟨by omega, by omega⟩
  rw [wrap_of_inRange t ht _ hr]

/-- Non-vacuity: `inverse_in<int32_t>(micro(seconds), hertz(-40))`, `K = 10^6`. -/
example : inverseIn (.int .i32) (.int .i32) [(.prime 2, 6), (.prime 5, 6)] (.i (-40)) = .ok (.i (-25000)) := by
  decide

/-- **C15, gate (with the fix of finding F16).**  An implicit-rep inversion compiles exactly when the
constant is an integer that fits the rep and is at least 10^6.  (The rep guard refuses the 8- and
16-bit reps, for which the right-hand side is unsatisfiable as well.) -/
theorem C15_inverse_gate (t : IntTy) (ht : t ∈ IntTy.all) (K : Mag) :
    inverseImplicitCompiles (.int t) K = true ↔
      (K.isInteger = true ∧ (K.num : Int) ≤ t.hi ∧ (1000000 : Int) ≤ (K.num : Int)) := by
  -- a rep holds the threshold literal exactly when `10^6 ≤ max(T)` (the 32- and 64-bit reps)
  have hthr : t.inRange ((inverseThresholdLiteral : Nat) : Int) ↔ (1000000 : Int) ≤ t.hi := by
    have := lo_nonpos t ht
    simp only [IntTy.inRange, inverseThresholdLiteral]
    omega
  unfold inverseImplicitCompiles thresholdOf
  by_cases hg : K.isInteger = true ∧ (K.num : Int) ≤ t.hi
  · rw [unityIn_ok t ht K hg.1 hg.2]
    by_cases hr : t.inRange ((inverseThresholdLiteral : Nat) : Int)
    · simp only [hr, if_true]
      simp [hg, valGe, ArithTy.isFloat, inverseThresholdLiteral]
    · -- the rep guard refuses `t`, and `K ≤ max(T) < 10^6` refutes the right-hand side
      have hsmall := mt hthr.2 hr
      have : ¬ (K.isInteger = true ∧ (K.num : Int) ≤ t.hi ∧ (1000000 : Int) ≤ (K.num : Int)) :=
        fun h => hsmall (Int.le_trans h.2.2 h.2.1)
      simp [hr, this]
  · -- `UNITY.in<R>(…)` is ill-formed, whatever the threshold
    have hn : (getValueI t K).isSome = false := by simpa using mt (getValueI_isSome_iff t K).1 hg
    have : ¬ (K.isInteger = true ∧ (K.num : Int) ≤ t.hi ∧ (1000000 : Int) ≤ (K.num : Int)) :=
      fun h => hg ⟨h.1, h.2.1⟩
    simp only [unityIn, hn]
    split <;> simp [this]

example : inverseImplicitCompiles (.int .i32) [(.prime 2, 6), (.prime 5, 6)] = true ∧
    inverseImplicitCompiles (.int .i32) [(.prime 2, 5), (.prime 5, 5)] = false ∧
    inverseImplicitCompiles (.int .i32) [(.prime 2, 10), (.prime 5, 10)] = false ∧
    inverseImplicitCompiles (.int .i64) [(.prime 2, 10), (.prime 5, 10)] = true ∧
    inverseImplicitCompiles (.int .i64) [(.prime 2, -3), (.prime 5, -3)] = false := by decide

/-- Guards finding F16: the model follows the fixed code, in which the threshold literal does not wrap
to 64 resp. 16960 for `int8_t` / `int16_t` and these inversions do not compile. -/
theorem C15_F16_fixed :
    inverseImplicitCompiles (.int .i8) [(.prime 2, 2), (.prime 5, 2)] = false ∧
    inverseImplicitCompiles (.int .u8) [(.prime 2, 6)] = false ∧
    inverseImplicitCompiles (.int .i16) [(.prime 2, 5), (.prime 5, 4)] = false ∧
    inverseImplicitCompiles (.int .u16) [(.prime 2, 4), (.prime 5, 4)] = false := by decide

/-- **C15, round trip on the model.**  Wherever the implicit-rep inversion compiles,
`inverse_in(a, inverse_as(b, a(n))) = n` for every `1 ≤ n ≤ 1000`, both steps free of undefined
behaviour. -/
theorem C15_inverse_roundtrip_model (t : IntTy) (ht : t ∈ IntTy.all)
    (K : Mag) (hc : inverseImplicitCompiles (.int t) K = true) (n : Nat) (h1 : 1 ≤ n) (h2 : n ≤ 1000) :
    ∃ m : Nat, inverseInImplicit (.int t) K (.i n) = .ok (.i m) ∧
      inverseInImplicit (.int t) K (.i m) = .ok (.i n) := by
  obtain ⟨hK, hfit, hthr⟩ := (C15_inverse_gate t ht K).1 hc
  have hN : 1000000 ≤ K.num := by omega
  have hpos : 0 < K.num := by omega
  refine ⟨K.num / n, ?_, ?_⟩
  · unfold inverseInImplicit
    rw [if_pos hc]
    have hnr : t.inRange (n : Int) := inRange_of_nat t ht n (by omega)
    rw [C15_inverse_value t ht K hK hpos hfit n hnr (by omega)]
    rw [← Int.ofNat_tdiv]
  · unfold inverseInImplicit
    rw [if_pos hc]
    have hm1 : n ≤ K.num / n := (Nat.le_div_iff_mul_le (by omega)).2 (sq_le_of_le_thousand hN h2)
    have hm2 : K.num / n ≤ K.num := Nat.div_le_self _ _
    have hmr : t.inRange ((K.num / n : Nat) : Int) := inRange_of_nat t ht _ (by omega)
    rw [C15_inverse_value t ht K hK hpos hfit _ hmr (by omega)]
    rw [← Int.ofNat_tdiv, C15_inverse_roundtrip K.num n hN h1 h2]

/-- Non-vacuity: kHz ↔ ns in `int32_t`, n = 999. -/
example : inverseImplicitCompiles (.int .i32) [(.prime 2, 6), (.prime 5, 6)] = true ∧
    inverseInImplicit (.int .i32) [(.prime 2, 6), (.prime 5, 6)] (.i 999) = .ok (.i 1001) ∧
    inverseInImplicit (.int .i32) [(.prime 2, 6), (.prime 5, 6)] (.i 1001) = .ok (.i 999) := by decide

/-- `RoundingRepT`: `R` itself for a floating `R`, `double` for an integral one; hence a floating
type on which it changes nothing — the `static_assert`s of math.hh:108-113 (floating; same type under
round/floor/ceil). -/
theorem C15_roundingRep_idem (R : ArithTy) : roundingRep (.flt (roundingRep R)) = roundingRep R := by
  cases R <;> rfl

theorem C15_roundingRep_float (f : FltTy) : roundingRep (.flt f) = f := rfl

theorem C15_roundingRep_int (t : IntTy) : roundingRep (.int t) = .f64 := rfl

/-- **C15, floor / ceil / round**: the std functions on the float model, for every finite value. -/
theorem C15_floor_spec (v : Rat) :
    ∃ r : Int, FVal.floor (.fin v) = .fin (r : Rat) ∧ (r : Rat) ≤ v ∧ v < (r : Rat) + 1 := by
  refine ⟨v.floor, rfl, Rat.floor_le v, ?_⟩
  have := @Rat.lt_floor v
  grind

theorem C15_ceil_spec (v : Rat) :
    ∃ r : Int, FVal.ceil (.fin v) = .fin (r : Rat) ∧ (r : Rat) - 1 < v ∧ v ≤ (r : Rat) := by
  refine ⟨v.ceil, FVal.ceil_fin v, ?_, Rat.le_ceil⟩
  have := @Rat.ceil_lt v
  grind

/-- **C15, round**: `|r − v| ≤ 1/2`, halfway cases away from zero. -/
theorem C15_round_spec (v : Rat) :
    ∃ r : Int, FVal.round (.fin v) = .fin (r : Rat) ∧ (r : Rat) - 1 / 2 ≤ v ∧ v ≤ (r : Rat) + 1 / 2 ∧
      (0 ≤ v → v < (r : Rat) + 1 / 2) ∧ (v < 0 → (r : Rat) - 1 / 2 < v) := by
  refine ⟨_, FVal.round_fin v, ?_⟩
  have h1 := Rat.floor_le (v + 1 / 2)
  have h2 := @Rat.lt_floor (v + 1 / 2)
  have h3 := @Rat.le_ceil (v - 1 / 2)
  have h4 := @Rat.ceil_lt (v - 1 / 2)
  split <;> grind

/-- The pipeline of `round_in / floor_in / ceil_in`: whatever is returned is the std function
applied to `q.in<RoundingRep>(rounding_units)`; nothing else happens to the value. -/
theorem C15_round_pipeline (fn : RFn) (R : ArithTy) (m : Mag) (x : Val) (r : FVal)
    (h : roundIn fn R m x = .ok r) : ∃ y, roundArg R m x = .ok y ∧ r = fn.apply y := by
  unfold roundIn at h
  cases hy : roundArg R m x with
  | ok y => rw [hy, Res.bind_ok] at h; exact ⟨y, rfl, (Res.ok.inj h).symm⟩
  | ub w => rw [hy, Res.bind_ub] at h; cases h
  | nocompile w => rw [hy, Res.bind_nocompile] at h; cases h

/-- **C15, floor/ceil/round on exact conversions.**  Whenever the converted float is the true value
`e` of the quantity in the rounding unit, the three functions satisfy the inequalities of the
property statement with respect to the true value. -/
theorem C15_floor_exact (R : ArithTy) (m : Mag) (x : Val) (e : Rat)
    (hconv : roundArg R m x = .ok (.fin e)) :
    ∃ r : Int, roundIn .floor R m x = .ok (.fin (r : Rat)) ∧ (r : Rat) ≤ e ∧ e < (r : Rat) + 1 := by
  obtain ⟨r, h1, h2, h3⟩ := C15_floor_spec e
  exact ⟨r, by simp [roundIn, hconv, RFn.apply, h1], h2, h3⟩

theorem C15_ceil_exact (R : ArithTy) (m : Mag) (x : Val) (e : Rat)
    (hconv : roundArg R m x = .ok (.fin e)) :
    ∃ r : Int, roundIn .ceil R m x = .ok (.fin (r : Rat)) ∧ (r : Rat) - 1 < e ∧ e ≤ (r : Rat) := by
  obtain ⟨r, h1, h2, h3⟩ := C15_ceil_spec e
  exact ⟨r, by simp [roundIn, hconv, RFn.apply, h1], h2, h3⟩

theorem C15_round_exact (R : ArithTy) (m : Mag) (x : Val) (e : Rat)
    (hconv : roundArg R m x = .ok (.fin e)) :
    ∃ r : Int, roundIn .round R m x = .ok (.fin (r : Rat)) ∧ (r : Rat) - 1 / 2 ≤ e ∧ e ≤ (r : Rat) + 1 / 2 := by
  obtain ⟨r, h1, h2, h3, _⟩ := C15_round_spec e
  exact ⟨r, by simp [roundIn, hconv, RFn.apply, h1], h2, h3⟩

/-- Non-vacuity of the `_exact` theorems: a `double` quantity rounded in its own unit
(`round_in(meters, meters(2.5))`): the conversion is the identity, hence exact. -/
example : roundArg (.flt .f64) [] (.f (.fin (5 / 2))) = .ok (.fin (5 / 2)) := by decide +kernel
example : roundIn .round (.flt .f64) [] (.f (.fin (5 / 2))) = .ok (.fin 3) ∧
    roundIn .round (.flt .f64) [] (.f (.fin (-5 / 2))) = .ok (.fin (-3)) ∧
    roundIn .floor (.flt .f64) [] (.f (.fin (-5 / 2))) = .ok (.fin (-3)) ∧
    roundIn .ceil (.flt .f64) [] (.f (.fin (-5 / 2))) = .ok (.fin (-2)) := by decide +kernel

/-- `inf` and `nan` pass through unchanged (no integer is returned for them). -/
theorem C15_round_nonfinite (fn : RFn) : fn.apply .nan = .nan ∧ fn.apply (.inf true) = .inf true ∧
    fn.apply (.inf false) = .inf false := by
  cases fn <;> exact ⟨rfl, rfl, rfl⟩

/-- `detail::in_radians` is the same conversion as the rounding argument: to `R` itself for
floating `R`, to `double` for integral `R`. -/
theorem C15_inRadians_eq (R : ArithTy) (m : Mag) (x : Val) :
    inRadians R m x = convert R (.flt (roundingRep R)) m x := rfl

/-- `static_cast<double>(n)` (and `float`, `long double`) is exact for `|n| < 2^p`. -/
theorem C15_int_to_float_exact (f : FltTy) (n : Int) (h : n.natAbs < 2 ^ f.prec) :
    rne f (n : Rat) = .fin (n : Rat) := by
  by_cases h0 : n = 0
  · subst h0; simp [rne]
  have hq0 : ¬ ((n : Rat) = 0) := fun h' => h0 (by exact_mod_cast h')
  have hpos : (n : Rat) > 0 ↔ 0 < n := by exact_mod_cast Iff.rfl
  -- for `q = (n : Rat)` the model reads `q.num = n`, `q.den = 1`: `rnePos` is called on `(|n|, 1)`,
  -- which represents `|n|` exactly
  have hm : rnePos f n.natAbs 1 = some ((n.natAbs : Nat) : Rat) := rnePos_nat f n.natAbs (by omega) h
  have habs : ((n.natAbs : Nat) : Rat) = if 0 < n then (n : Rat) else -(n : Rat) := by
    rw [← Rat.intCast_natCast]
    split
    · congr 1; omega
    · rw [← Rat.intCast_neg]; congr 1; omega
  by_cases hn : 0 < n
  · have hto : n.toNat = n.natAbs := by omega
    simp only [rne, hq0, if_false, hpos.2 hn, if_true, Rat.num_intCast, Rat.den_intCast, hto, hm, habs, hn]
  · have hto : (-n).toNat = n.natAbs := by omega
    simp only [rne, hq0, if_false, mt hpos.1 hn, Rat.num_intCast, Rat.den_intCast, hto, hm, habs, hn,
      Rat.neg_neg]

/-- **C15, integral input × integer ratio.**  Where the compile-time constant `get_value<double>(K)`
is the integer `N` (evaluated by the driver for every explored instance and compared with the real
headers) and `|x|, |x·N| < 2^53`, `round_in`, `floor_in` and `ceil_in` all return the true value
`x·N`: every step of the pipeline is exact. -/
theorem C15_round_int_exact (fn : RFn) (t : IntTy) (K : Mag) (N : Nat) (hK : K.isInteger = true)
    (hgv : getValueF .f64 K = some (.fin (N : Rat))) (x : Int)
    (hx : x.natAbs < 2 ^ 53) (hxn : (x * N).natAbs < 2 ^ 53) :
    roundIn fn (.int t) K (.i x) = .ok (.fin ((x * N : Int) : Rat)) := by
  have hp : FltTy.f64.prec = 53 := rfl
  have e1 : rne .f64 (x : Rat) = .fin (x : Rat) := C15_int_to_float_exact .f64 x (by rw [hp]; exact hx)
  have e2 : rne .f64 (((x * N : Int)) : Rat) = .fin ((x * N : Int) : Rat) := C15_int_to_float_exact .f64 _ (by rw [hp]; exact hxn)
  have hmul : (x : Rat) * (N : Rat) = ((x * N : Int) : Rat) := by
    rw [Rat.intCast_mul, Rat.intCast_natCast]
  have hcat := categorizeMag_of_isInteger hK
  have hconv : convert (.int t) (.flt .f64) K (.i x) = .ok (.f (.fin ((x * N : Int) : Rat))) := by
    unfold convert
    have hdec : (K.isEmpty && decide (ArithTy.int t = ArithTy.flt FltTy.f64)) = false := by simp
    simp only [hdec, Bool.false_eq_true, if_false, ArithTy.common, staticCast, Res.bind_ok, e1, applyMagnitude, applyMagF,
      magOp, hcat, hgv, FOp.apply, FVal.mul, hmul, e2, FVal.toFlt]
  unfold roundIn roundArg
  simp only [roundingRep, hconv, Res.bind_ok, fnApply_int]

/-- Same unit: `round_in(u, u(n)) = n` for every integral rep and `|n| < 2^53` (no hypothesis on
constants: the empty magnitude evaluates to 1 by definition). -/
theorem C15_round_int_sameunit (fn : RFn) (t : IntTy) (x : Int) (hx : x.natAbs < 2 ^ 53) :
    roundIn fn (.int t) [] (.i x) = .ok (.fin (x : Rat)) := by
  simpa using C15_round_int_exact fn t [] 1 rfl rfl x hx (by simpa using hx)

/-- Non-vacuity (instance of the theorem, not an evaluation). -/
example : roundIn .ceil (.int .i16) [] (.i (-7)) = .ok (.fin ((-7 : Int) : Rat)) :=
  C15_round_int_sameunit .ceil .i16 (-7) (by decide)

/-- The identical-type `Quantity` overloads are the hidden friends: `max(a, b) = b < a ? a : b`,
`min(a, b) = b < a ? b : a` on the stored values.  `same` is the caller's flag (the driver accepts it only
for `R1 = R2` and empty magnitudes); the statement does not relate it to `R1 R2 m1 m2`. -/
theorem C15_max_same_rule (R1 R2 : ArithTy) (m1 m2 : Mag) (x1 x2 : Val) :
    maxQ true R1 R2 m1 m2 x1 x2 = .ok (if valLt x2 x1 then x1 else x2) ∧
    minQ true R1 R2 m1 m2 x1 x2 = .ok (if valLt x2 x1 then x2 else x1) := by
  simp [maxQ, minQ]

theorem C15_max_same (R1 R2 : ArithTy) (m1 m2 : Mag) (a b : Int) :
    maxQ true R1 R2 m1 m2 (.i a) (.i b) = .ok (.i (max a b)) := by
  rw [(C15_max_same_rule R1 R2 m1 m2 _ _).1, ite_valLt_max, Int.max_comm]

theorem C15_min_same (R1 R2 : ArithTy) (m1 m2 : Mag) (a b : Int) :
    minQ true R1 R2 m1 m2 (.i a) (.i b) = .ok (.i (min a b)) := by
  rw [(C15_max_same_rule R1 R2 m1 m2 _ _).2, ite_valLt_min]

/-- For finite floating values the hidden friends return the larger / smaller operand too. -/
theorem C15_max_same_float (R1 R2 : ArithTy) (m1 m2 : Mag) (a b : Rat) :
    maxQ true R1 R2 m1 m2 (.f (.fin a)) (.f (.fin b)) = .ok (.f (.fin (if b < a then a else b))) := by
  rw [(C15_max_same_rule R1 R2 m1 m2 _ _).1]
  simp only [valLt, FVal.lt]
  by_cases h : b < a <;> simp [h]

/-- **Finding F27, kernel-checked.**  For identical `Quantity` types `max(meters(NaN), meters(1.0))`
is `1 m` (the hidden friend returns its second argument when the comparison is false), whereas the
mixed-type path — `std::max` — returns its first argument, NaN. -/
theorem C15_max_same_type_nan :
    maxQ true (.flt .f64) (.flt .f64) [] [] (.f .nan) (.f (.fin 1)) = .ok (.f (.fin 1)) ∧
    maxQ false (.flt .f64) (.flt .f64) [] [] (.f .nan) (.f (.fin 1)) = .ok (.f .nan) := by
  decide +kernel

/-- **C15, max (mixed types) — structure.**  `max(q1, q2)` for different quantity types is
`std::max(a, b) = (a < b) ? b : a` on the two operands converted to the common unit and common rep,
whatever the reps. -/
theorem C15_max_mixed (R1 R2 : ArithTy) (m1 m2 : Mag) (x1 x2 a b : Val)
    (h1 : toCommon R1 (R1.common R2) m1 x1 = .ok a) (h2 : toCommon R2 (R1.common R2) m2 x2 = .ok b) :
    maxQ false R1 R2 m1 m2 x1 x2 = .ok (if valLt a b then b else a) := by
  simp [maxQ, h1, h2]

/-- `min`: `std::min(a, b) = (b < a) ? b : a`. -/
theorem C15_min_mixed (R1 R2 : ArithTy) (m1 m2 : Mag) (x1 x2 a b : Val)
    (h1 : toCommon R1 (R1.common R2) m1 x1 = .ok a) (h2 : toCommon R2 (R1.common R2) m2 x2 = .ok b) :
    minQ false R1 R2 m1 m2 x1 x2 = .ok (if valLt b a then b else a) := by
  simp [minQ, h1, h2]

/-- **C15, max / min — integral reps, clean conversions.**  Whenever both operands convert to the
common unit (integer ratios) and common rep without wrap, overflow or narrowing, the result is the
maximum resp. minimum of the exact values, and it is one of the two converted operands. -/
theorem C15_max_spec (t1 t2 : IntTy) (h1 : t1 ∈ IntTy.all) (h2 : t2 ∈ IntTy.all) (m1 m2 : Mag)
    (hm1 : m1.isInteger = true) (hm2 : m2.isInteger = true) (x1 x2 : Int)
    (hf1 : (m1.num : Int) ≤ (IntTy.common t1 t2).hi) (hf2 : (m2.num : Int) ≤ (IntTy.common t1 t2).hi)
    (hx1 : (IntTy.common t1 t2).inRange x1) (hx2 : (IntTy.common t1 t2).inRange x2)
    (hv1 : (IntTy.common t1 t2).inRange (x1 * (m1.num : Int))) (hv2 : (IntTy.common t1 t2).inRange (x2 * (m2.num : Int))) :
    maxQ false (.int t1) (.int t2) m1 m2 (.i x1) (.i x2) = .ok (.i (max (x1 * (m1.num : Int)) (x2 * (m2.num : Int)))) ∧
      (max (x1 * (m1.num : Int)) (x2 * (m2.num : Int)) = x1 * (m1.num : Int) ∨
       max (x1 * (m1.num : Int)) (x2 * (m2.num : Int)) = x2 * (m2.num : Int)) := by
  have hC := common_mem t1 t2 h1 h2
  obtain ⟨ha1, ha2⟩ := common_absorb t1 h1 t2 h2
  refine ⟨?_, by omega⟩
  rw [C15_max_mixed (.int t1) (.int t2) m1 m2 _ _ _ _ (toCommon_ok _ _ _ _ ⟨hC, ha1, hm1, hf1, hx1, hv1⟩)
    (toCommon_ok _ _ _ _ ⟨hC, ha2, hm2, hf2, hx2, hv2⟩), ite_valLt_max]

theorem C15_min_spec (t1 t2 : IntTy) (h1 : t1 ∈ IntTy.all) (h2 : t2 ∈ IntTy.all) (m1 m2 : Mag)
    (hm1 : m1.isInteger = true) (hm2 : m2.isInteger = true) (x1 x2 : Int)
    (hf1 : (m1.num : Int) ≤ (IntTy.common t1 t2).hi) (hf2 : (m2.num : Int) ≤ (IntTy.common t1 t2).hi)
    (hx1 : (IntTy.common t1 t2).inRange x1) (hx2 : (IntTy.common t1 t2).inRange x2)
    (hv1 : (IntTy.common t1 t2).inRange (x1 * (m1.num : Int))) (hv2 : (IntTy.common t1 t2).inRange (x2 * (m2.num : Int))) :
    minQ false (.int t1) (.int t2) m1 m2 (.i x1) (.i x2) = .ok (.i (min (x1 * (m1.num : Int)) (x2 * (m2.num : Int)))) ∧
      (min (x1 * (m1.num : Int)) (x2 * (m2.num : Int)) = x1 * (m1.num : Int) ∨
       min (x1 * (m1.num : Int)) (x2 * (m2.num : Int)) = x2 * (m2.num : Int)) := by
  have hC := common_mem t1 t2 h1 h2
  obtain ⟨ha1, ha2⟩ := common_absorb t1 h1 t2 h2
  refine ⟨?_, by omega⟩
  rw [C15_min_mixed (.int t1) (.int t2) m1 m2 _ _ _ _ (toCommon_ok _ _ _ _ ⟨hC, ha1, hm1, hf1, hx1, hv1⟩)
    (toCommon_ok _ _ _ _ ⟨hC, ha2, hm2, hf2, hx2, hv2⟩), ite_valLt_min]

/-- Non-vacuity: `max(feet(int16_t{-7}), inches(int32_t{100}))` in inches/int32: max(−84, 100). -/
example : maxQ false (.int .i16) (.int .i32) [(.prime 2, 2), (.prime 3, 1)] [] (.i (-7)) (.i 100) = .ok (.i 100) ∧
    minQ false (.int .i16) (.int .i32) [(.prime 2, 2), (.prime 3, 1)] [] (.i (-7)) (.i 100) = .ok (.i (-84)) := by decide

/-- **C15, max / min — floating reps.**  On the converted (round-to-nearest) operands `a`, `b` the
result is `(a < b) ? b : a` resp. `(b < a) ? b : a`; in particular a NaN first operand is returned,
and a NaN second operand is ignored — exactly `std::max` / `std::min`. -/
theorem C15_max_float (R1 R2 : ArithTy) (m1 m2 : Mag) (x1 x2 : Val) (a b : FVal)
    (h1 : toCommon R1 (R1.common R2) m1 x1 = .ok (.f a)) (h2 : toCommon R2 (R1.common R2) m2 x2 = .ok (.f b)) :
    maxQ false R1 R2 m1 m2 x1 x2 = .ok (.f (if FVal.lt a b then b else a)) ∧
    minQ false R1 R2 m1 m2 x1 x2 = .ok (.f (if FVal.lt b a then b else a)) := by
  rw [C15_max_mixed R1 R2 m1 m2 x1 x2 _ _ h1 h2, C15_min_mixed R1 R2 m1 m2 x1 x2 _ _ h1 h2]
  simp only [valLt]
  constructor
  · by_cases h : FVal.lt a b = true <;> simp [h]
  · by_cases h : FVal.lt b a = true <;> simp [h]

theorem C15_max_float_nan (R1 R2 : ArithTy) (m1 m2 : Mag) (x1 x2 : Val) (b : FVal)
    (h1 : toCommon R1 (R1.common R2) m1 x1 = .ok (.f .nan)) (h2 : toCommon R2 (R1.common R2) m2 x2 = .ok (.f b)) :
    maxQ false R1 R2 m1 m2 x1 x2 = .ok (.f .nan) ∧ minQ false R1 R2 m1 m2 x1 x2 = .ok (.f .nan) := by
  have := C15_max_float R1 R2 m1 m2 x1 x2 .nan b h1 h2
  cases b <;> simpa [FVal.lt] using this

theorem C15_max_float_nan_second (R1 R2 : ArithTy) (m1 m2 : Mag) (x1 x2 : Val) (a : FVal)
    (h1 : toCommon R1 (R1.common R2) m1 x1 = .ok (.f a)) (h2 : toCommon R2 (R1.common R2) m2 x2 = .ok (.f .nan)) :
    maxQ false R1 R2 m1 m2 x1 x2 = .ok (.f a) ∧ minQ false R1 R2 m1 m2 x1 x2 = .ok (.f a) := by
  have := C15_max_float R1 R2 m1 m2 x1 x2 a .nan h1 h2
  cases a <;> simpa [FVal.lt] using this

/-- **C15, clamp — integral reps, mixed types, clean conversions.**  `clamp(v, lo, hi)` compares
`v < lo` and `hi < v` in the common unit/rep of each *pair* and converts the selected operand to
the common unit/rep of all three.  With all seven conversions clean and the result unit dividing
both pair units (factors `k1`, `k2`), the result is `min(max(V, L), H)` on the exact values in the
result unit (`lo ≤ hi`), and it is one of `V, L, H`.  Identical types take `clampQ true _` /
`clampQ _ true` (the hidden-friend `<` on the stored values), which no theorem covers; that path and the
floating clamp rest on the correspondence only. -/
theorem C15_clamp_spec (tv tl th : IntTy) (ms : ClampMags) (v lo hi : Int)
    (c1 : CleanConv tv (IntTy.common tv tl) ms.vToVLo v) (c2 : CleanConv tl (IntTy.common tv tl) ms.loToVLo lo)
    (c3 : CleanConv th (IntTy.common th tv) ms.hiToHiV hi) (c4 : CleanConv tv (IntTy.common th tv) ms.vToHiV v)
    (c5 : CleanConv tv (IntTy.common (IntTy.common tv tl) th) ms.vToRes v)
    (c6 : CleanConv tl (IntTy.common (IntTy.common tv tl) th) ms.loToRes lo)
    (c7 : CleanConv th (IntTy.common (IntTy.common tv tl) th) ms.hiToRes hi)
    (k1 k2 : Nat) (hk1 : 0 < k1) (hk2 : 0 < k2)
    (e1 : ms.vToRes.num = k1 * ms.vToVLo.num) (e2 : ms.loToRes.num = k1 * ms.loToVLo.num)
    (e3 : ms.hiToRes.num = k2 * ms.hiToHiV.num) (e4 : ms.vToRes.num = k2 * ms.vToHiV.num)
    (hle : lo * (ms.loToRes.num : Int) ≤ hi * (ms.hiToRes.num : Int)) :
    clampQ false false (.int tv) (.int tl) (.int th) ms (.i v) (.i lo) (.i hi) =
        .ok (.i (min (max (v * (ms.vToRes.num : Int)) (lo * (ms.loToRes.num : Int))) (hi * (ms.hiToRes.num : Int)))) ∧
      (min (max (v * (ms.vToRes.num : Int)) (lo * (ms.loToRes.num : Int))) (hi * (ms.hiToRes.num : Int)) = v * (ms.vToRes.num : Int) ∨
       min (max (v * (ms.vToRes.num : Int)) (lo * (ms.loToRes.num : Int))) (hi * (ms.hiToRes.num : Int)) = lo * (ms.loToRes.num : Int) ∨
       min (max (v * (ms.vToRes.num : Int)) (lo * (ms.loToRes.num : Int))) (hi * (ms.hiToRes.num : Int)) = hi * (ms.hiToRes.num : Int)) := by
  refine ⟨?_, by omega⟩
  have hlt1 := mul_lt_mul_iff_of_common_factor hk1 v lo ms.vToVLo.num ms.loToVLo.num
  have hlt2 := mul_lt_mul_iff_of_common_factor hk2 hi v ms.hiToHiV.num ms.vToHiV.num
  rw [← e1, ← e2] at hlt1
  rw [← e3, ← e4] at hlt2
  unfold clampQ lessQ
  simp only [Bool.false_eq_true, if_false, ArithTy.common, toCommon_ok _ _ _ _ c1, toCommon_ok _ _ _ _ c2,
    toCommon_ok _ _ _ _ c3, toCommon_ok _ _ _ _ c4, Res.bind_ok, valLt]
  by_cases hA : v * (ms.vToVLo.num : Int) < lo * (ms.loToVLo.num : Int)
  · have hA' := hlt1.2 hA
    simp only [hA, decide_true, if_true, construct_ok _ _ _ _ c6]
    congr 2; omega
  · have hA' : ¬ (v * (ms.vToRes.num : Int) < lo * (ms.loToRes.num : Int)) := fun h => hA (hlt1.1 h)
    simp only [hA, decide_false, Bool.false_eq_true, if_false]
    by_cases hB : hi * (ms.hiToHiV.num : Int) < v * (ms.vToHiV.num : Int)
    · have hB' := hlt2.2 hB
      simp only [hB, decide_true, if_true, construct_ok _ _ _ _ c7]
      congr 2; omega
    · have hB' : ¬ (hi * (ms.hiToRes.num : Int) < v * (ms.vToRes.num : Int)) := fun h => hB (hlt2.1 h)
      simp only [hB, decide_false, Bool.false_eq_true, if_false, construct_ok _ _ _ _ c5]
      congr 2; omega

/-- Non-vacuity: `clamp(feet(10), inches(100), yards(3))` with `int32_t`; the common unit is inches,
`V = 120, L = 100, H = 108` → `108`. -/
example : clampQ false false (.int .i32) (.int .i32) (.int .i32)
    ⟨[(.prime 2, 2), (.prime 3, 1)], [], [(.prime 3, 1)], [], [(.prime 2, 2), (.prime 3, 1)], [], [(.prime 2, 2), (.prime 3, 2)]⟩
    (.i 10) (.i 100) (.i 3) = .ok (.i 108) := by decide

/-- The driver's batch commands run `ConvPlan`s; running a plan is `convert`. -/
theorem C15_plan_sound (R N : ArithTy) (m : Mag) (x : Val) : convert R N m x = (planConvert R N m).run x := by
  unfold convert ConvPlan.run planConvert
  simp only []
  split
  · rfl
  · cases hsc : staticCast x (R.common N) with
    | ub w => rfl
    | nocompile w => rfl
    | ok v =>
      simp only [Res.bind_ok]
      cases hC : R.common N with
      | int t => rfl
      | flt f =>
        cases v with
        | i n => rfl
        | f y =>
          simp only [applyMagnitude, applyMagF]
          cases magOp f m <;> rfl

end Au
