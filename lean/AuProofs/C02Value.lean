import AuProofs.C02
import AuProofs.Lemmas.MagValue
/-! # C02 at the level of numbers -/
namespace Au
open Pack

def UExpr.IntPows : UExpr → Prop
  | .atom _ => True
  | .mul a b => a.IntPows ∧ b.IntPows
  | .div a b => a.IntPows ∧ b.IntPows
  | .pow a q => q.den = 1 ∧ a.IntPows
  | .scale a _ => a.IntPows

/-- The number a unit expression denotes (relative to the base units), computed on rationals. -/
def UExpr.valueOf (env : Env) (piv : Rat) : UExpr → Rat
  | .atom u => Mag.qval piv (u.magOf env)
  | .mul a b => a.valueOf env piv * b.valueOf env piv
  | .div a b => a.valueOf env piv / b.valueOf env piv
  | .pow a q => (a.valueOf env piv) ^ q.num
  | .scale a m => a.valueOf env piv * Mag.qval piv m

/-- **C02 at the level of numbers.**  For every unit expression over rational named units, rational
scale factors and integer powers, the magnitude the library computes (any strict total unit order,
any nesting) is a rational magnitude whose exact value is the product / quotient / power of the
values of its parts: the exponent algebra of `C02_dim_mag_exact` denotes the right numbers. -/
theorem C02_value_exact {lt : U → U → Bool} (hlt : StrictTotal lt) (env : Env) (hw : env.WF) (piv : Rat) (hpi : 0 < piv) :
    (e : UExpr) → (∀ u ∈ e.atoms, HGood lt u) → (∀ m ∈ e.scales, Valid MagBase.lt m) →
    (∀ u ∈ e.atoms, Mag.Rational (u.magOf env)) → (∀ m ∈ e.scales, Mag.Rational m) → e.IntPows →
    Mag.Rational ((e.eval lt).magOf env) ∧ Mag.qval piv ((e.eval lt).magOf env) = e.valueOf env piv
  | .atom u, _, _, hr, _, _ => ⟨hr u (List.mem_singleton_self u), rfl⟩
  | .mul a b, h, hs, hr, hrs, hip => by
    have ⟨haa, hab⟩ := List.forall_mem_append.1 h
    have ⟨hsa, hsb⟩ := List.forall_mem_append.1 hs
    have ⟨hra, hrb⟩ := List.forall_mem_append.1 hr
    have ⟨hrsa, hrsb⟩ := List.forall_mem_append.1 hrs
    obtain ⟨ra, va⟩ := C02_value_exact hlt env hw piv hpi a haa hsa hra hrsa hip.1
    obtain ⟨rb, vb⟩ := C02_value_exact hlt env hw piv hpi b hab hsb hrb hrsb hip.2
    rw [UExpr.eval, (PackSem.magOf lt env hw).mul hlt (HGood.eval hlt a haa hsa) (HGood.eval hlt b hab hsb),
      UExpr.valueOf, ← va, ← vb]
    exact rational_mul piv hpi _ _ ra rb
  | .div a b, h, hs, hr, hrs, hip => by
    have ⟨haa, hab⟩ := List.forall_mem_append.1 h
    have ⟨hsa, hsb⟩ := List.forall_mem_append.1 hs
    have ⟨hra, hrb⟩ := List.forall_mem_append.1 hr
    have ⟨hrsa, hrsb⟩ := List.forall_mem_append.1 hrs
    obtain ⟨ra, va⟩ := C02_value_exact hlt env hw piv hpi a haa hsa hra hrsa hip.1
    obtain ⟨rb, vb⟩ := C02_value_exact hlt env hw piv hpi b hab hsb hrb hrsb hip.2
    have hgb := HGood.eval hlt b hab hsb
    rw [UExpr.eval, U.div, (PackSem.magOf lt env hw).mul hlt (HGood.eval hlt a haa hsa) (hgb.pow (-1)),
      (PackSem.magOf lt env hw).pow hgb (-1), UExpr.valueOf, ← va, ← vb, div_eq_mul_inv]
    exact rational_div piv hpi _ _ ra rb
  | .pow a q, h, hs, hr, hrs, hip => by
    obtain ⟨ra, va⟩ := C02_value_exact hlt env hw piv hpi a h hs hr hrs hip.2
    -- an integer power `q` is the cast of its numerator, the form `rational_pow_int` speaks of
    have hq : ((q.num : Int) : Rat) = q := Rat.coe_int_num_of_den_eq_one hip.1
    rw [UExpr.eval, (PackSem.magOf lt env hw).pow (HGood.eval hlt a h hs) q, UExpr.valueOf, ← va]
    exact hq ▸ rational_pow_int piv _ q.num ra
  | .scale a m, h, hs, hr, hrs, hip => by
    have ⟨hm, hsa⟩ := List.forall_mem_cons.1 hs
    have ⟨hrm, hrsa⟩ := List.forall_mem_cons.1 hrs
    obtain ⟨ra, va⟩ := C02_value_exact hlt env hw piv hpi a h hsa hr hrsa hip
    rw [UExpr.eval, (U.scale_dim_mag_pack env hw (HGood.eval hlt a h hsa) m hm).2, UExpr.valueOf, ← va]
    exact rational_mul piv hpi _ _ ra hrm

/-- Kilo-metres per (minute squared), with metres ↦ 1 and minutes ↦ 60: value 1000/3600. -/
example :
    let env : Env := ⟨fun _ => [], fun n => if n = 1 then [(.prime 2, 2), (.prime 3, 1), (.prime 5, 1)] else []⟩
    (UExpr.div (.scale (.atom (.named 0)) [(.prime 2, 3), (.prime 5, 3)]) (.pow (.atom (.named 1)) 2)).valueOf env 3 = 1000 / 3600 := by
  decide +kernel

end Au
