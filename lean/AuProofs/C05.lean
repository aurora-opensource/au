import AuProofs.Lemmas.Flt
import AuProofs.Lemmas.StaticCast
import AuProofs.C04
namespace Au
open IntTy FltTy

/-! # C05 — rep-changing conversions and their checkers are sound -/

/-- **C05, static_cast checker, integral pairs.**  For all 64 ordered pairs of integer types and
every value of the source type, `will_static_cast_overflow<Dest>` is true exactly when the value is
outside the range of `Dest`. -/
theorem C05_cast_overflow_iff (s d : IntTy) (hs : s ∈ IntTy.all) (hd : d ∈ IntTy.all) (x : Int)
    (hx : s.inRange x) : willCastOverflow (.int s) (.int d) (.i x) = true ↔ ¬ d.inRange x :=
  castOverflowII_iff s d hs hd x hx

/-- Integral → anything and anything → floating never "truncates" (library convention for
floating destinations). -/
theorem C05_cast_truncate_never (s d : ArithTy) (v : Num)
    (h : (∃ t, s = .int t) ∨ (∃ f, d = .flt f)) : willCastTruncate s d v = false := by
  unfold willCastTruncate categorizeTruncation
  rcases h with ⟨t, rfl⟩ | ⟨f, rfl⟩
  · cases d <;> split <;> simp_all
  · cases s <;> split <;> simp_all

/-- Statement-level predicate for integral reps: the exact value of every stage of
`static_cast<T>(apply_magnitude(static_cast<Common>(x)))` is in that stage's range — `x` in the
common type, `x·N` in the promoted common type, `x·N/D` (as a rational) in the common type, and the
quotient handed to the last cast in `T`. -/
def StagesFit (S T : IntTy) (N D : Nat) (x : Int) : Prop :=
  (IntTy.common S T).inRange x ∧ ExactFits (IntTy.common S T) N D x ∧ T.inRange (Int.tdiv (x * N) D)
instance (S T : IntTy) (N D : Nat) (x : Int) : Decidable (StagesFit S T N D x) := by
  unfold StagesFit; infer_instance

/-- The standing assumptions of the theorems on integral reps: two of the eight reps, a positive factor `N/D` for which the
conversion compiles in the common type, a value of the source rep. -/
structure IntConv (S T : IntTy) (N D : Nat) (x : Int) : Prop where
  hS : S ∈ IntTy.all
  hT : T ∈ IntTy.all
  hN : 0 < N
  hD : 0 < D
  hc : compiles (IntTy.common S T) N D = true
  hx : S.inRange x

theorem ovfTII_eq {S T : IntTy} {N D : Nat} {x : Int} (h : IntConv S T N D x) :
    ovfTII S T N D x = .ok (!decide (StagesFit S T N D x)) := by
  have hC := common_mem S T h.hS h.hT
  unfold ovfTII StagesFit
  simp only []
  cases h1 : castOverflowII S (IntTy.common S T) x with
  | true =>
    have := (castOverflowII_iff S _ h.hS hC x h.hx).1 h1
    simp [this]
  | false =>
    have hxC := (castOverflowII_false S _ h.hS hC x h.hx).1 h1
    rw [wrap_of_inRange _ hC x hxC]
    cases h2 : wouldOverflow (IntTy.common S T) N D x with
    | true =>
      have := (C04_overflow_iff _ hC N D h.hN h.hD h.hc x hxC).1 h2
      simp [this]
    | false =>
      have hfit : ExactFits (IntTy.common S T) N D x := Decidable.not_not.1 fun hn => by
        rw [(C04_overflow_iff _ hC N D h.hN h.hD h.hc x hxC).2 hn] at h2; cases h2
      obtain ⟨ha, hq⟩ := applyMag_of_fits _ hC N D h.hD x hfit
      rw [ha]
      cases h3 : castOverflowII (IntTy.common S T) T (Int.tdiv (x * N) D) with
      | true => simp [h3, (castOverflowII_iff _ T hC h.hT _ hq).1 h3]
      | false => simp [h3, hxC, hfit, (castOverflowII_false _ T hC h.hT _ hq).1 h3]

/-- **C05, overflow pipeline, integral reps.**  `will_conversion_overflow<T>` never evaluates
anything undefined, and it reports overflow exactly when some stage's exact value leaves that
stage's range. -/
theorem C05_overflow_iff_int (S T : IntTy) (hS : S ∈ IntTy.all) (hT : T ∈ IntTy.all) (N D : Nat)
    (hN : 0 < N) (hD : 0 < D) (hc : compiles (IntTy.common S T) N D = true) (x : Int)
    (hx : S.inRange x) :
    ∃ b, ovfTII S T N D x = .ok b ∧ (b = true ↔ ¬ StagesFit S T N D x) :=
  ⟨_, ovfTII_eq ⟨hS, hT, hN, hD, hc, hx⟩, by simp⟩

/-- What the truncation checker, its sanitizer events, the conversion and the quotient's range are when every stage fits. -/
theorem stagesFit_eval {S T : IntTy} {N D : Nat} {x : Int} (h : IntConv S T N D x) (hfit : StagesFit S T N D x) :
    truncTII S T N D x = .ok (wouldTruncate (IntTy.common S T) N D x) ∧ truncCheckerEvent S T N D x = false ∧
    coerceII S T N D x = ⟨.ok (.i (Int.tdiv (x * N) D)), false, false, false, false⟩ ∧
    (IntTy.common S T).inRange (Int.tdiv (x * N) D) := by
  have hC := common_mem S T h.hS h.hT
  have hw := wrap_of_inRange _ hC x hfit.1
  obtain ⟨ha, hq⟩ := applyMag_of_fits _ hC N D h.hD x hfit.2.1
  refine ⟨?_, ?_, ?_, hq⟩
  · unfold truncTII
    simp only [hw, ha]
    cases wouldTruncate (IntTy.common S T) N D x <;> rfl
  · unfold truncCheckerEvent
    simp only [hw, ha]
    cases wouldTruncate (IntTy.common S T) N D x <;> rfl
  · unfold coerceII
    simp [hw, ha, wrap_of_inRange T h.hT _ hfit.2.2]

/-- **C05, "overflow only if real".**  For integral sources and targets, overflow is reported only
when some step's exact value really leaves that step's range. -/
theorem C05_overflow_only_if_real (S T : IntTy) (hS : S ∈ IntTy.all) (hT : T ∈ IntTy.all) (N D : Nat)
    (hN : 0 < N) (hD : 0 < D) (hc : compiles (IntTy.common S T) N D = true) (x : Int)
    (hx : S.inRange x) (h : ovfTII S T N D x = .ok true) : ¬ StagesFit S T N D x := by
  simpa [ovfTII_eq ⟨hS, hT, hN, hD, hc, hx⟩] using h

/-- Non-vacuity: int16 → uint8, factor 3/2: x = 100 gives 150, which fits the common type `int` and `uint8_t`: no overflow;
x = 200 gives 300 > 255, which leaves the range only in the last cast: reported. -/
example : ovfTII i16 u8 3 2 100 = .ok false ∧ StagesFit i16 u8 3 2 100 ∧
    ovfTII i16 u8 3 2 200 = .ok true ∧ ¬ StagesFit i16 u8 3 2 200 := by decide

theorem lossyOf_false {t o : Eval Bool} : lossyOf t o = .ok false ↔ t = .ok false ∧ o = .ok false := by
  unfold lossyOf
  split <;> simp_all

/-- **C05, soundness of the pipeline, integral reps.**  If `is_conversion_lossy<T>` is false, then
the source value is in the common type's range (the first cast changes nothing), the product by the
numerator is in the promoted type's range, no unsigned intermediate wraps, the exact quotient is an
integer `q` in the range of the common type and of `T`, no cast narrows, and
`coerce_in<T>` / `as<T>` return exactly `q = x·N/D`. -/
theorem C05_pipeline_sound_int (S T : IntTy) (hS : S ∈ IntTy.all) (hT : T ∈ IntTy.all) (N D : Nat)
    (hN : 0 < N) (hD : 0 < D) (hc : compiles (IntTy.common S T) N D = true) (x : Int)
    (hx : S.inRange x) (hl : lossyTII S T N D x = .ok false) :
    ∃ q : Int, coerceII S T N D x = ⟨.ok (.i q), false, false, false, false⟩ ∧ q * D = x * N ∧
      StagesFit S T N D x ∧ (IntTy.common S T).inRange q ∧ T.inRange q := by
  have hh : IntConv S T N D x := ⟨hS, hT, hN, hD, hc, hx⟩
  obtain ⟨htr, hov⟩ := lossyOf_false.1 hl
  have hfit : StagesFit S T N D x := by simpa [ovfTII_eq hh] using hov
  obtain ⟨htr', -, hco, hqC⟩ := stagesFit_eval hh hfit
  -- stage 2 reports no truncation, so `D` divides `x·N` and the truncated quotient is the exact one
  obtain ⟨q, hq⟩ : (D : Int) ∣ x * N := C04_truncate_sound _ N D x (by rw [htr'] at htr; injection htr)
  have htd : Int.tdiv (x * N) D = q := by rw [hq]; exact Int.mul_tdiv_cancel_left _ (by omega)
  exact ⟨q, htd ▸ hco, by rw [hq, Int.mul_comm], hfit, htd ▸ hqC, htd ▸ hfit.2.2⟩

/-- Non-vacuity: uint16 37000 × 7/4 → int32: common type `int`, product 259000, result 64750. -/
example : lossyTII u16 i32 7 4 37000 = .ok false ∧
    coerceII u16 i32 7 4 37000 = ⟨.ok (.i 64750), false, false, false, false⟩ := by decide

/-- Non-vacuity with a narrowing target: int64 → int8, factor 1/1000, x = −127000. -/
example : lossyTII i64 i8 1 1000 (-127000) = .ok false ∧
    coerceII i64 i8 1 1000 (-127000) = ⟨.ok (.i (-127)), false, false, false, false⟩ := by decide

/-- **C05, no false alarm, integral reps.**  If every stage's exact value is in range and `x·N/D`
is an integer, the conversion is not reported lossy. -/
theorem C05_no_false_alarm_int (S T : IntTy) (hS : S ∈ IntTy.all) (hT : T ∈ IntTy.all) (N D : Nat)
    (hN : 0 < N) (hD : 0 < D) (hcop : Nat.Coprime D N) (hc : compiles (IntTy.common S T) N D = true)
    (x : Int) (hx : S.inRange x) (hfit : StagesFit S T N D x) (hint : ExactInteger N D x) :
    lossyTII S T N D x = .ok false := by
  have hh : IntConv S T N D x := ⟨hS, hT, hN, hD, hc, hx⟩
  have hnt : wouldTruncate (IntTy.common S T) N D x = false :=
    Bool.eq_false_iff.2 fun h => (C04_truncate_iff _ N D hcop hc x).1 h hint
  obtain ⟨htr, -, -, -⟩ := stagesFit_eval hh hfit
  exact lossyOf_false.2 ⟨by rw [htr, hnt], by simp [ovfTII_eq hh, hfit]⟩

/-! ### The checkers' own evaluation (an observation outside the statement of C05: the property only
constrains inputs for which `is_conversion_lossy<T>` is false) -/

/-- Remark (not a property-level claim): "the `<T>` checkers never evaluate anything undefined" is FALSE on the code:
`will_conversion_truncate<T>` evaluates `coerce_in` on the common-type value without having checked
overflow first. -/
def C05_checkers_ub_free_full : Prop :=
  ∀ (S T : IntTy), S ∈ IntTy.all → T ∈ IntTy.all → ∀ (N D : Nat), 0 < N → 0 < D →
    compiles (IntTy.common S T) N D = true → ∀ x : Int, S.inRange x →
    ∃ b, truncTII S T N D x = .ok b

/-- Counterexample (reproduced on the real code under UBSan): `int32_t` 2^30 × 3/2 → `int32_t`:
the truncation checker computes 2^30·3 in `int`. -/
theorem C05_checkers_ub_free_counterexample : ¬ C05_checkers_ub_free_full := by
  intro h
  obtain ⟨b, hb⟩ := h i32 i32 (by decide) (by decide) 3 2 (by decide) (by decide) (by decide)
    (2 ^ 30) (by decide)
  revert hb
  have : truncTII i32 i32 3 2 (2 ^ 30) = .ub "signed overflow in multiplication" := by decide
  rw [this]
  intro hb; cases hb

/-- Partial version (strongest true one): the truncation checker evaluates something undefined only
on inputs for which `will_conversion_overflow<T>` reports overflow — so whatever a non-trapping
evaluation returns, `is_conversion_lossy<T>` is true there. -/
theorem C05_checkers_ub_only_if_overflow (S T : IntTy) (hS : S ∈ IntTy.all) (hT : T ∈ IntTy.all)
    (N D : Nat) (hN : 0 < N) (hD : 0 < D) (hc : compiles (IntTy.common S T) N D = true) (x : Int)
    (hx : S.inRange x) (w : String) (h : truncTII S T N D x = .ub w) :
    ovfTII S T N D x = .ok true := by
  have hh : IntConv S T N D x := ⟨hS, hT, hN, hD, hc, hx⟩
  by_cases hfit : StagesFit S T N D x
  · obtain ⟨htr, -, -, -⟩ := stagesFit_eval hh hfit
    rw [htr] at h
    cases h
  · simp [ovfTII_eq hh, hfit]

/-- The same for everything an exact-count sanitizer build can observe inside the truncation
checker — signed overflow *or* unsigned wrap-around (`truncCheckerEvent`): it happens only on inputs
for which `will_conversion_overflow<T>` reports overflow.  (Tied to the real code value by value in
the `exact` configuration of tools/p_c05.py.) -/
theorem C05_checker_event_only_if_overflow (S T : IntTy) (hS : S ∈ IntTy.all) (hT : T ∈ IntTy.all)
    (N D : Nat) (hN : 0 < N) (hD : 0 < D) (hc : compiles (IntTy.common S T) N D = true) (x : Int)
    (hx : S.inRange x) (h : truncCheckerEvent S T N D x = true) :
    ovfTII S T N D x = .ok true := by
  have hh : IntConv S T N D x := ⟨hS, hT, hN, hD, hc, hx⟩
  by_cases hfit : StagesFit S T N D x
  · obtain ⟨-, hev, -, -⟩ := stagesFit_eval hh hfit
    rw [hev] at h
    cases h
  · simp [ovfTII_eq hh, hfit]

example : truncCheckerEvent i8 u32 4294967295 4294967294 (-2) = true ∧
    truncCheckerEvent i32 i32 3 2 (2 ^ 30) = true ∧ truncCheckerEvent i32 i32 3 2 1000 = false := by decide

theorem flt_all_cases (f : FltTy) (hf : f ∈ FltTy.all) : f = f32 ∨ f = f64 ∨ f = f80 := by
  simpa [FltTy.all] using hf

/-- The limits the float → integer overflow checker compares against, for all 24 (F, I) pairs,
obtained by evaluating the model's `static_cast<F>(numeric_limits<I>::lowest()/max())`: the lower
limit is always exact; the upper limit is `max(I)` unless `max_rounds_up` (F has fewer digits than
I), in which case it is `max(I) + 1` (a power of two).  (`AuProofs.Gen.C05` checks the same constants
against the compiler's on every run.) -/
theorem castLim_table : ∀ F ∈ FltTy.all, ∀ I ∈ IntTy.all,
    castLimLo F (.int I) = .fin ((I.lo : Int) : Rat) ∧
    castLimHi F (.int I) =
      .fin ((if maxRoundsUp F (.int I) then I.hi + 1 else I.hi : Int) : Rat) := by
  decide +kernel

/-- Which pairs round up: `float` → 32/64-bit, `double` → 64-bit (the pairs of finding F5); for
`long double` none. -/
theorem C05_maxRoundsUp_pairs :
    (∀ I ∈ IntTy.all, maxRoundsUp f80 (.int I) = false) ∧
    (∀ I ∈ [i8, u8, i16, u16, i32, u32], maxRoundsUp f64 (.int I) = false) ∧
    (∀ I ∈ [i8, u8, i16, u16], maxRoundsUp f32 (.int I) = false) ∧
    (∀ I ∈ [i32, u32, i64, u64], maxRoundsUp f32 (.int I) = true) ∧
    (∀ I ∈ [i64, u64], maxRoundsUp f64 (.int I) = true) := by
  decide

/-- **C05, floating → integral (full strength, after the fix of F5).**  For all 24 pairs `(F, I)`
and for *every* `x : Flt` (NaN, ±inf and `fin q` for every rational `q`, representable or not, which is stronger than
"every value of the floating type"): a value flagged neither by
`will_static_cast_overflow<I>` nor by `will_static_cast_truncate<I>` is an integer within the range
of `I` — so the cast is well-defined and value-preserving. -/
theorem C05_float_to_int_sound (F : FltTy) (hF : F ∈ FltTy.all) (I : IntTy) (hI : I ∈ IntTy.all)
    (x : Flt) (ho : willCastOverflow (.flt F) (.int I) (.f x) = false)
    (ht : willCastTruncate (.flt F) (.int I) (.f x) = false) :
    ∃ n : Int, x = .fin (n : Rat) ∧ I.inRange n := by
  obtain ⟨hlo, hhi⟩ := castLim_table F hF I hI
  have hcat : categorizeOverflow (.flt F) (.int I) = .floatToAnything := rfl
  have htc : categorizeTruncation (.flt F) (.int I) = .floatToIntegral := by
    simp [categorizeTruncation]
  simp only [willCastOverflow, castOverflowF] at ho
  rw [hcat, hlo, hhi] at ho
  unfold willCastTruncate at ht
  rw [htc] at ht
  simp only [] at ho ht
  cases x with
  | nan => simp [Flt.trunc, Flt.ne] at ht
  | inf s => cases s <;> cases maxRoundsUp F (.int I) <;> simp [Flt.lt, Flt.gt, Flt.ge, Flt.le] at ho
  | fin q =>
    simp only [Flt.trunc, Flt.ne, decide_eq_false_iff_not, Decidable.not_not] at ht
    refine ⟨Int.tdiv q.num q.den, by rw [ht], ?_⟩
    rw [← ht] at ho
    unfold IntTy.inRange
    cases hru : maxRoundsUp F (.int I) with
    | false =>
      simp only [hru, Flt.lt, Flt.gt, Bool.or_eq_false_iff, decide_eq_false_iff_not, if_false,
        Bool.false_eq_true] at ho
      rw [Rat.intCast_lt_intCast, Rat.intCast_lt_intCast] at ho
      omega
    | true =>
      simp only [hru, Flt.lt, Flt.ge, Flt.le, Bool.or_eq_false_iff, decide_eq_false_iff_not, if_true,
        Bool.not_eq_false', decide_eq_true_eq] at ho
      rw [Rat.intCast_lt_intCast, Rat.intCast_lt_intCast] at ho
      omega

/-- "Values that cannot be cast to an integral target (out of range, non-integers, infinities, NaN)
are always reported": contrapositive, all 24 pairs. -/
theorem C05_uncastable_is_flagged (F : FltTy) (hF : F ∈ FltTy.all) (I : IntTy)
    (hI : I ∈ IntTy.all) (x : Flt) (h : ¬ ∃ n : Int, x = .fin (n : Rat) ∧ I.inRange n) :
    willCastOverflow (.flt F) (.int I) (.f x) = true ∨ willCastTruncate (.flt F) (.int I) (.f x) = true := by
  cases ho : willCastOverflow (.flt F) (.int I) (.f x) with
  | true => exact Or.inl rfl
  | false =>
    cases ht : willCastTruncate (.flt F) (.int I) (.f x) with
    | true => exact Or.inr rfl
    | false => exact absurd (C05_float_to_int_sound F hF I hI x ho ht) h

/-- Regression guard for F5 (fixed by commit fba9acf): the values F5 missed are flagged, their
lower neighbours are not. -/
theorem C05_F5_fixed :
    willCastOverflow (.flt f32) (.int i32) (.f (.fin 2147483648)) = true ∧
    willCastOverflow (.flt f32) (.int i32) (.f (.fin 2147483520)) = false ∧
    willCastOverflow (.flt f32) (.int u64) (.f (.fin 18446744073709551616)) = true ∧
    willCastOverflow (.flt f64) (.int i64) (.f (.fin 9223372036854775808)) = true ∧
    willCastOverflow (.flt f64) (.int i64) (.f (.fin 9223372036854774784)) = false ∧
    lossyT (.flt f32) (.int i32) ⟨1, 1, []⟩ (.f (.fin 2147483648)) = .ok true := by
  decide +kernel

/-- Non-vacuity: `double` → `int32_t`: 2147483647.0 passes, 2147483648.0, 0.5, NaN and +inf are
flagged. -/
example :
    willCastOverflow (.flt f64) (.int i32) (.f (.fin 2147483647)) = false ∧
    willCastTruncate (.flt f64) (.int i32) (.f (.fin 2147483647)) = false ∧
    willCastOverflow (.flt f64) (.int i32) (.f (.fin 2147483648)) = true ∧
    willCastTruncate (.flt f64) (.int i32) (.f (.fin (1/2))) = true ∧
    willCastTruncate (.flt f64) (.int i32) (.f .nan) = true ∧
    willCastOverflow (.flt f64) (.int i32) (.f (.inf false)) = true := by
  decide +kernel

/-- A cast within one floating type is `DEST_BOUNDS_CONTAIN_SOURCE_BOUNDS`. -/
theorem castOverflowF_self (F : FltTy) (v : Flt) : castOverflowF F (.flt F) v = false := by
  unfold castOverflowF categorizeOverflow; simp

/-- **C05, pipeline, floating source → integral target (full strength, all 24 pairs).**  If
`is_conversion_lossy<I>` is false, then the value computed in the common (floating) type is an
integer `n` in the range of `I`, the final cast is well-defined, and `coerce_in<I>` returns `n` —
"the value-preserving cast of the computed floating result". -/
theorem C05_pipeline_sound_float_to_int (F : FltTy) (hF : F ∈ FltTy.all) (I : IntTy)
    (hI : I ∈ IntTy.all) (k : Factor) (x : Flt)
    (hl : lossyT (.flt F) (.int I) k (.f x) = .ok false) :
    ∃ n : Int, midF F k (.f x) = some (.fin (n : Rat)) ∧ I.inRange n ∧
      (coerceT (.flt F) (.int I) k (.f x)).val = .ok (.i n) := by
  have htF := C05_cast_truncate_never (.flt F) (.flt F) (.f x) (.inr ⟨F, rfl⟩)
  have hov : ovfT (.flt F) (.int I) k (.f x) =
      (if fltWouldOverflow F k (Flt.cast F x) then .ok true
       else .ok (willCastOverflow (.flt F) (.int I) (.f (fltApply F k (Flt.cast F x))))) := by
    simp [ovfT, ArithTy.common, ovfTF, willCastOverflow, castOverflowF_self, castNum]
  have htr : truncT (.flt F) (.int I) k (.f x) =
      (if fltWouldTruncate F k (Flt.cast F x) then .ok true
       else .ok (willCastTruncate (.flt F) (.int I) (.f (fltApply F k (Flt.cast F x))))) := by
    simp [truncT, ArithTy.common, truncTF, htF, castNum]
  have hmid : midF F k (.f x) = some (fltApply F k (Flt.cast F x)) := by
    simp [midF, castNum]
  obtain ⟨h1, h2⟩ := lossyOf_false.1 hl
  rw [htr] at h1
  rw [hov] at h2
  have h3 : willCastTruncate (.flt F) (.int I) (.f (fltApply F k (Flt.cast F x))) = false ∧
      willCastOverflow (.flt F) (.int I) (.f (fltApply F k (Flt.cast F x))) = false := by
    split at h1 <;> split at h2 <;> simp_all
  obtain ⟨n, hn, hr⟩ := C05_float_to_int_sound F hF I hI _ h3.2 h3.1
  refine ⟨n, by rw [hmid, hn], hr, ?_⟩
  simp only [coerceT, ArithTy.common, coerceF, hmid, hn, castNum, Flt.toInt?, Flt.truncInt, Rat.num_intCast,
    Rat.den_intCast, Int.natCast_one, Int.tdiv_one]
  simp [hr]

/-- Non-vacuity: `double` 6.0 × 5/3 → `int8_t` gives 10; `float` 2147483520 → `int32_t` (an F5
pair) is cleared and converted exactly. -/
example :
    lossyT (.flt f64) (.int i8) ⟨5, 3, [(3, -1), (5, 1)]⟩ (.f (.fin 6)) = .ok false ∧
    (coerceT (.flt f64) (.int i8) ⟨5, 3, [(3, -1), (5, 1)]⟩ (.f (.fin 6))).val = .ok (.i 10) ∧
    lossyT (.flt f32) (.int i32) ⟨1, 1, []⟩ (.f (.fin 2147483520)) = .ok false ∧
    (coerceT (.flt f32) (.int i32) ⟨1, 1, []⟩ (.f (.fin 2147483520))).val = .ok (.i 2147483520) := by
  decide +kernel

/-- Full (literal) statement: converting an integer to a floating rep preserves its value.  FALSE
(and by library convention never reported): F9. -/
def C05_int_to_float_exact_full : Prop :=
  ∀ S ∈ IntTy.all, ∀ F ∈ FltTy.all, ∀ x : Int, S.inRange x → Flt.ofInt F x = .fin (x : Rat)

theorem C05_int_to_float_counterexample : ¬ C05_int_to_float_exact_full := by
  intro h
  have := h i64 (by decide) f64 (by decide) (2 ^ 53 + 1) (by decide)
  revert this
  decide +kernel

/-- The pipeline on the F9 witness: `int64_t` 2^53+1 → `double`, factor 1: not lossy, result 2^53. -/
theorem C05_pipeline_F9_counterexample :
    lossyT (.int i64) (.flt f64) ⟨1, 1, []⟩ (.i (2 ^ 53 + 1)) = .ok false ∧
    (coerceT (.int i64) (.flt f64) ⟨1, 1, []⟩ (.i (2 ^ 53 + 1))).val = .ok (.f (.fin (2 ^ 53 : Int))) := by
  decide +kernel

/-- **C05, integral → floating, partial.**  Every integer with `|x| ≤ 2^digits(F)` is converted
exactly — proved about the rounding function itself, for all such `x`. -/
theorem C05_int_to_float_exact_partial (F : FltTy) (hF : F ∈ FltTy.all) (x : Int)
    (h : x.natAbs ≤ 2 ^ F.prec) : Flt.ofInt F x = .fin (x : Rat) := by
  obtain ⟨hp, hmax, hemin⟩ := ofInt_exact_conditions F hF
  exact ofInt_exact F hp hmax hemin x h

set_option linter.unusedVariables false in -- `hS`: the bound holds for any width
/-- Consequently the cast is exact on the whole range of every integer type that is no wider than
the significand: all 8/16-bit types into every floating rep, 32-bit types into `double` and
`long double`, 64-bit types into `long double`. -/
theorem C05_int_to_float_exact_types (S : IntTy) (hS : S ∈ IntTy.all) (F : FltTy) (hF : F ∈ FltTy.all)
    (hw : S.bits ≤ F.prec) (x : Int) (hx : S.inRange x) : Flt.ofInt F x = .fin (x : Rat) := by
  apply C05_int_to_float_exact_partial F hF
  -- `|x| ≤ 2^(bits-1)` or `x ≤ 2^bits - 1`, and `bits ≤ digits(F)`
  have h1 : 2 ^ S.bits ≤ 2 ^ F.prec := Nat.pow_le_pow_right (by decide) hw
  have h2 : 2 ^ (S.bits - 1) ≤ 2 ^ S.bits := Nat.pow_le_pow_right (by decide) (Nat.sub_le _ _)
  have e1 : ((2 ^ S.bits : Nat) : Int) = 2 ^ S.bits := Int.natCast_pow 2 _
  have e2 : ((2 ^ (S.bits - 1) : Nat) : Int) = 2 ^ (S.bits - 1) := Int.natCast_pow 2 _
  unfold IntTy.inRange IntTy.lo IntTy.hi at hx
  split at hx <;> omega

example : Flt.ofInt f32 16777216 = .fin 16777216 ∧ Flt.ofInt f32 16777217 ≠ .fin 16777217 := by
  decide +kernel

theorem castLimFF_table : ∀ p ∈ [(f64, f32), (f80, f32), (f80, f64)],
    categorizeOverflow (.flt p.1) (.flt p.2) = .floatToAnything ∧
    castLimLo p.1 (.flt p.2) = .fin (-p.2.maxFinite) ∧
    castLimHi p.1 (.flt p.2) = .fin p.2.maxFinite := by
  decide +kernel

/-- **C05, narrowing floating casts.**  `double → float`, `long double → float`,
`long double → double`: a value that `will_static_cast_overflow` does not flag is NaN or a finite
value whose cast to `Dest` is finite (it lies within `[lowest(Dest), max(Dest)]`, and a rational of
magnitude at most `max` never rounds to infinity).  ±inf is always flagged. -/
theorem C05_float_narrowing_sound (S D : FltTy)
    (hp : (S, D) ∈ [(f64, f32), (f80, f32), (f80, f64)]) (x : Flt)
    (ho : willCastOverflow (.flt S) (.flt D) (.f x) = false) :
    x = .nan ∨ ∃ q r : Rat, x = .fin q ∧ Flt.cast D x = .fin r := by
  obtain ⟨hcat, hlo, hhi⟩ := castLimFF_table (S, D) hp
  have hD : D ∈ FltTy.all := by
    simp only [List.mem_cons, Prod.mk.injEq, List.mem_nil_iff, or_false] at hp
    rcases hp with ⟨_, rfl⟩ | ⟨_, rfl⟩ | ⟨_, rfl⟩ <;> decide
  obtain ⟨hK, he⟩ := rne_finite_conditions D hD
  simp only [willCastOverflow, castOverflowF] at ho
  simp only [] at hcat hlo hhi
  rw [hcat, hlo, hhi] at ho
  simp only [maxRoundsUp, Bool.false_eq_true, if_false] at ho
  cases x with
  | nan => exact Or.inl rfl
  | inf s => cases s <;> simp [Flt.lt, Flt.gt] at ho
  | fin q =>
    simp only [Flt.lt, Flt.gt, Bool.or_eq_false_iff, decide_eq_false_iff_not, Rat.not_lt] at ho
    obtain ⟨r, hr⟩ := rne_finite D hK he q ho.1 ho.2
    exact Or.inr ⟨q, r, rfl, hr⟩

/-- Full statement: a finite floating input that is not reported lossy is scaled to a finite value
("every … scaling step is … in range").  FALSE on the code (finding F18): the overflow check compares `x` against
the *rounded* quotient `max / mag`; when that quotient was rounded up, `x` equal to it passes the
check while `x * mag` rounds to infinity.  (The error bound of one scaling step is `C05_float_scale_mul_err` / `_div_err` in
`Lemmas/FltRelErr.lean`; the overflow *check* is not bounded by a theorem.) -/
def C05_float_scaling_in_range_full : Prop :=
  ∀ F ∈ FltTy.all, ∀ k : Factor, k.wf = true → ∀ q : Rat, rne F q = .fin q →
    lossyT (.flt F) (.flt F) k (.f (.fin q)) = .ok false →
    ∃ r : Rat, midF F k (.f (.fin q)) = some (.fin r)

/-- Counterexample (reproduced on the real code): `float` 1082401·2^103 × 31 (the same happens at
`float` 0x1.12e0bep+98 × 10^9, found by the correspondence run). -/
theorem C05_float_scaling_counterexample : ¬ C05_float_scaling_in_range_full := by
  intro h
  obtain ⟨r, hr⟩ := h f32 (by decide) ⟨31, 1, [(31, 1)]⟩ (by decide +kernel)
    ((1082401 : Rat) * pow2 103) (by decide +kernel) (by decide +kernel)
  have hm : midF f32 ⟨31, 1, [(31, 1)]⟩ (.f (.fin ((1082401 : Rat) * pow2 103))) =
      some (.inf false) := by decide +kernel
  rw [hm] at hr
  cases hr

theorem factor_one_table : ∀ F ∈ FltTy.all,
    Flt.div F (Flt.maxOf F) (.fin 1) = Flt.maxOf F ∧
    Flt.div F (Flt.lowestOf F) (.fin 1) = Flt.lowestOf F ∧
    gvFlt F [] = some (.fin 1) := by
  decide +kernel

/-- **C05, integral → floating, pure change of rep (factor 1), partial.**  For `|x| ≤ 2^digits(F)`
the conversion is not reported lossy (rightly) and returns exactly `x`. -/
theorem C05_pipeline_int_to_float_identity (S : IntTy) (F : FltTy) (hF : F ∈ FltTy.all) (x : Int)
    (h : x.natAbs ≤ 2 ^ F.prec) :
    lossyT (.int S) (.flt F) ⟨1, 1, []⟩ (.i x) = .ok false ∧
    (coerceT (.int S) (.flt F) ⟨1, 1, []⟩ (.i x)).val = .ok (.f (.fin (x : Rat))) := by
  have hx : Flt.ofInt F x = .fin (x : Rat) := C05_int_to_float_exact_partial F hF x h
  have hr : rne F (x : Rat) = .fin (x : Rat) := hx
  obtain ⟨-, hmax, -⟩ := ofInt_exact_conditions F hF
  obtain ⟨hd1, hd2, hgv⟩ := factor_one_table F hF
  have hcat : categorize 1 1 = .intMul := rfl
  obtain ⟨hlo, hhi⟩ := intCast_abs_le_max F hmax x h
  have hM1 : ¬ (F.maxFinite < (x : Rat)) := Rat.not_lt.2 hhi
  have hM2 : ¬ ((x : Rat) < -F.maxFinite) := Rat.not_lt.2 hlo
  have hnoovf : fltWouldOverflow F ⟨1, 1, []⟩ (.fin (x : Rat)) = false := by
    simp only [Flt.maxOf, Flt.lowestOf] at hd1 hd2
    simp only [fltWouldOverflow, hcat, hgv, fltWouldProductOverflow, Flt.maxOf, Flt.lowestOf, hd1, hd2,
      Flt.gt, Flt.lt, hM1, hM2, decide_false, Bool.or_false]
  have happ : fltApply F ⟨1, 1, []⟩ (.fin (x : Rat)) = .fin (x : Rat) := by
    simp only [fltApply, hcat, hgv, Option.getD_some, Flt.mul, Rat.mul_one, hr]
  have htF : ∀ s v, willCastTruncate s (.flt F) v = false := fun s v => C05_cast_truncate_never s _ v (.inr ⟨F, rfl⟩)
  have hov : ovfT (.int S) (.flt F) ⟨1, 1, []⟩ (.i x) = .ok false := by
    simp [ovfT, ArithTy.common, ovfTF, willCastOverflow, castNum, hx, hnoovf, happ, castOverflowF_self]
  have htr : truncT (.int S) (.flt F) ⟨1, 1, []⟩ (.i x) = .ok false := by
    simp [truncT, ArithTy.common, truncTF, castNum, hx, fltWouldTruncate, hcat, happ, htF]
  refine ⟨by unfold lossyT lossyOf; rw [htr, hov], ?_⟩
  simp [coerceT, ArithTy.common, coerceF, midF, castNum, hx, happ, Flt.cast, hr]

/-- Every ordered pair of the eleven reps is handled by the static_cast checkers (no `UNEXPLORED`
situation, which would be a compile error). -/
theorem C05_cast_checkable : ∀ s ∈ ArithTy.all, ∀ d ∈ ArithTy.all, castCheckable s d = true := by
  decide +kernel

end Au
