import AuProofs.C04
namespace Au
open IntTy

/-- **C03.** For every integral rep, every positive `N/D` for which the conversion
compiles, and every stored value: if `is_conversion_lossy` is false then the conversion returns
exactly `x·N/D` (`q` with `q·D = x·N`), every intermediate step is free of undefined behaviour,
no unsigned intermediate wraps, and the final conversion back to `T` does not change the value. -/
theorem C03_exact (t : IntTy) (ht : t ∈ IntTy.all) (N D : Nat) (hN : 0 < N) (hD : 0 < D)
    (hc : compiles t N D = true) (x : Int) (hx : t.inRange x)
    (hl : isLossy t N D x = false) :
    ∃ q : Int, applyMag t N D x = ⟨.ok q, false, false⟩ ∧ q * D = x * N ∧ t.inRange q := by
  obtain ⟨htr, hov⟩ := (Bool.or_eq_false_iff).1 hl
  obtain ⟨q, hq⟩ := C04_truncate_sound t N D x htr
  have hfit : ExactFits t N D x :=
    Decidable.of_not_not fun h => by simp [(C04_overflow_iff t ht N D hN hD hc x hx).2 h] at hov
  have htd : Int.tdiv (x * N) D = q := by rw [hq]; exact Int.mul_tdiv_cancel_left _ (by omega)
  obtain ⟨ha, hqr⟩ := applyMag_of_fits t ht N D hD x hfit
  exact ⟨q, htd ▸ ha, by rw [hq, Int.mul_comm], htd ▸ hqr⟩

/-- Non-vacuity: uint16, factor 7/4, x = 37000 (promoted product 259000 exceeds uint16 but fits
int; result 64750 fits uint16). -/
example : compiles u16 7 4 = true ∧ u16.inRange 37000 ∧ isLossy u16 7 4 37000 = false ∧
    applyMag u16 7 4 37000 = ⟨.ok 64750, false, false⟩ := by decide

end Au
