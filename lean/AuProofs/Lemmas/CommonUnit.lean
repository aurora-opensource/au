import AuModel.CommonUnit
import AuProofs.Lemmas.FlatDedup
import AuProofs.Lemmas.Unit

/-! The stages of `ComputeCommonUnit` after `FlatDedupedTypeList`: what `EliminateRedundantUnits` keeps
(`eliminateRedundant_spec`), `FirstMatchingUnit` (`firstMatching_cases`), `CommonUnit<l...>` (`mkCommon_*`) and the
case analysis of `SimplifyIfOnlyOneUnscaledUnit` (`simplifyIfOnlyOneUnscaled_cases`). -/
namespace Au
open Pack

theorem isInteger_den_nonneg (m : Mag) (h : Mag.isInteger m = true) (x : MagBase) : 0 ≤ den m x := by
  by_cases h0 : den m x = 0
  · rw [h0]; exact Rat.le_refl
  · -- a non-zero exponent is that of an entry, and every entry passed the test `1 ≤ exponent`
    have := List.all_eq_true.1 h _ (mem_of_den_ne_zero m x h0)
    cases x with
    | prime p => simp only [Bool.and_eq_true, decide_eq_true_eq] at this; grind
    | pi => exact nomatch this

/-- A redundant unit is an integer multiple of the unit that makes it redundant. -/
theorem redundant_le (env : Env) (lt : U → U → Bool) (u v : U)
    (hu : Valid MagBase.lt (u.magOf env)) (hv : Valid MagBase.lt (v.magOf env))
    (h : isFirstRedundant env lt u v = true) : MagLe (v.magOf env) (u.magOf env) := by
  unfold isFirstRedundant at h
  split at h
  next huv => subst huv; exact MagLe.refl _
  · split at h
    next hq =>
      rw [((U.qEquiv_iff env).1 hq).2]; exact MagLe.refl _
    · refine MagLe.iff_sub_nonneg.2 fun x => ?_
      have := isInteger_den_nonneg _ h x
      rwa [Mag.div, div_den MagBase.lt_strictTotal _ _ hu.1 hv] at this

theorem eliminateRedundant_subset (env : Env) (lt : U → U → Bool) (l : List U) :
    ∀ u ∈ eliminateRedundant env lt l, u ∈ l := by
  fun_induction eliminateRedundant env lt l with
  | case1 => exact fun _ h => h
  | case2 h ts _ ih => exact fun u hu => List.mem_cons_of_mem _ (ih u hu)
  | case3 h ts _ rest _ ih =>
    exact List.forall_mem_cons.2 ⟨List.mem_cons_self ..,
      fun u hu => List.mem_cons_of_mem _ (List.mem_filter.1 (ih u hu)).1⟩

/-- `EliminateRedundantUnits` keeps a sub-list that has the same lower envelope: every removed unit
is an integer multiple of a unit that stays. -/
theorem eliminateRedundant_spec (env : Env) (lt : U → U → Bool) (l : List U)
    (hv : ∀ u ∈ l, Valid MagBase.lt (u.magOf env)) :
    (∀ u ∈ eliminateRedundant env lt l, u ∈ l) ∧
    (∀ u ∈ l, ∃ v ∈ eliminateRedundant env lt l, MagLe (v.magOf env) (u.magOf env)) := by
  refine ⟨eliminateRedundant_subset env lt l, ?_⟩
  fun_induction eliminateRedundant env lt l with
  | case1 => exact fun _ h => nomatch h
  | case2 h ts hred ih =>
    -- the head is redundant next to some `t`, which is an integer multiple of a unit that stays
    have ⟨hvh, hvt⟩ := List.forall_mem_cons.1 hv
    have i2 := ih hvt
    obtain ⟨t, ht, hr⟩ := List.any_eq_true.1 hred
    obtain ⟨v, hvm, hle⟩ := i2 t ht
    exact List.forall_mem_cons.2 ⟨⟨v, hvm, hle.trans (redundant_le env lt h t hvh (hvt t ht) hr)⟩, i2⟩
  | case3 h ts hred rest _ ih =>
    -- the head stays; a unit of the tail that it makes redundant is an integer multiple of it
    have ⟨hvh, hvt⟩ := List.forall_mem_cons.1 hv
    have i2 := ih fun u hu => hvt u (List.mem_filter.1 hu).1
    refine List.forall_mem_cons.2 ⟨⟨h, List.mem_cons_self .., MagLe.refl _⟩, fun u hu => ?_⟩
    by_cases hr : isFirstRedundant env lt u h = true
    · exact ⟨h, List.mem_cons_self .., redundant_le env lt u h (hvt u hu) hvh hr⟩
    · obtain ⟨v, hvm, hle⟩ := i2 u (List.mem_filter.2 ⟨hu, by simpa using hr⟩)
      exact ⟨v, List.mem_cons_of_mem _ hvm, hle⟩

theorem firstMatching_eq_find (pred : U → U → Bool) (target : U) (l : List U) :
    firstMatching pred target l = (l.find? (pred target)).getD target := by
  induction l with
  | nil => rfl
  | cons h t ih => rw [firstMatching, List.find?_cons]; split <;> simp [*]

theorem firstMatching_cases (pred : U → U → Bool) (target : U) (l : List U) :
    firstMatching pred target l = target ∨
      (firstMatching pred target l ∈ l ∧ pred target (firstMatching pred target l) = true) := by
  rw [firstMatching_eq_find]
  cases hf : l.find? (pred target) with
  | none => exact Or.inl rfl
  | some y => exact Or.inr ⟨List.mem_of_find?_eq_some hf, List.find?_some hf⟩

theorem mkCommon_mag (env : Env) (l : List U) :
    (mkCommon l).magOf env = Mag.commonAll (l.map (U.magOf env)) := by
  rw [mkCommon, U.magOf]
  congr 1
  induction l with
  | nil => rfl
  | cons a t ih => simp [UL.ofList, UL.mags, ih]

theorem mkCommon_good {lt : U → U → Bool} {l : List U} (h : ∀ u ∈ l, HGood lt u) : HGood lt (mkCommon l) := by
  unfold mkCommon
  apply HGood.common
  intro y hy
  rw [UL.toList_ofList] at hy
  rcases List.mem_map.1 hy with ⟨u, hu, rfl⟩
  exact h u hu

theorem firstMatching_qEquiv_mag (env : Env) (target : U) (l : List U) :
    (firstMatching (U.qEquiv env) target l).magOf env = target.magOf env := by
  rcases firstMatching_cases (U.qEquiv env) target l with h | ⟨_, h⟩
  · rw [h]
  · exact ((U.qEquiv_iff env).1 h).2.symm

theorem firstMatching_good {lt : U → U → Bool} {pred : U → U → Bool} {target : U} {l : List U}
    (ht : HGood lt target) (hl : ∀ p ∈ l, HGood lt p) : HGood lt (firstMatching pred target l) := by
  rcases firstMatching_cases pred target l with h | ⟨h, _⟩
  · rw [h]; exact ht
  · exact hl _ h

theorem HGood.unscaled {lt : U → U → Bool} {u : U} (h : HGood lt u) : HGood lt u.unscaled := by
  unfold U.unscaled
  split
  · cases h; assumption
  · exact h

/-- `SimplifyIfOnlyOneUnscaledUnit` returns its input, or a well-formed unit `sole` (the only unscaled unit)
rescaled to the input's magnitude. -/
theorem simplifyIfOnlyOneUnscaled_cases {lt : U → U → Bool} (env : Env) {u : U} (hu : HGood lt u) :
    simplifyIfOnlyOneUnscaled env lt u = u ∨ ∃ sole, HGood lt sole ∧
      simplifyIfOnlyOneUnscaled env lt u = sole.scale (Mag.div (u.magOf env) (sole.magOf env)) := by
  unfold simplifyIfOnlyOneUnscaled
  dsimp only
  split
  next sole hsole =>
    refine Or.inr ⟨sole, ?_, rfl⟩
    cases u with
    | common us =>
      have hmem : sole ∈ flatDedup lt (us.toList.map (fun x => [x.1.unscaled])) := by
        dsimp only at hsole; rw [hsole]; exact List.mem_cons_self ..
      obtain ⟨y, hy, hin⟩ := (mem_flatDedup_map _ _ sole).1 hmem
      obtain rfl := List.mem_singleton.1 hin
      cases hu with
      | common _ hm => exact (hm y hy).unscaled
    | named n | scaled v m | prod ps | commonPoint us =>
      obtain rfl : _ = sole := List.singleton_inj.1 hsole; exact hu.unscaled
  · exact Or.inl rfl

end Au
