import AuModel.MathFn
import AuProofs.Lemmas.ApplyMag
namespace Au.C15
open Au

/-! Evaluation lemmas for `AuModel.MathFn`: the `Res` monad, integral conversions without wrap, overflow
or narrowing (`CleanConv`), integers in the float model of `AuModel.MathFlt`, and
`std::floor / ceil / round` on it. -/

@[simp] theorem Res.bind_ok {α β : Type} (a : α) (g : α → Res β) : (Res.ok a).bind g = g a := rfl
@[simp] theorem Res.bind_ub {α β : Type} (w : String) (g : α → Res β) : (Res.ub w : Res α).bind g = .ub w := rfl
@[simp] theorem Res.bind_nocompile {α β : Type} (w : String) (g : α → Res β) :
    (Res.nocompile w : Res α).bind g = .nocompile w := rfl

theorem den_of_isInteger (K : Mag) (h : K.isInteger = true) : K.den = 1 := by
  unfold Mag.den
  induction K with
  | nil => rfl
  | cons be t ih =>
    obtain ⟨b, e⟩ := be
    simp only [Mag.isInteger, List.all_cons, Bool.and_eq_true, decide_eq_true_eq] at h
    have ht : Mag.isInteger t = true := by simpa [Mag.isInteger] using h.2
    cases b with
    | pi => simp at h
    | prime p =>
      simp only [Mag.inv, List.map_cons, Mag.num]
      have : ¬ (-e > 0) := by omega
      rw [if_neg this, Nat.one_mul]
      exact ih ht

theorem categorizeMag_of_isInteger {K : Mag} (h : K.isInteger = true) : categorizeMag K = .intMul := by
  simp [categorizeMag, h]

theorem getValueI_isSome_iff (t : IntTy) (K : Mag) :
    (getValueI t K).isSome = true ↔ K.isInteger = true ∧ (K.num : Int) ≤ t.hi := by
  unfold getValueI
  split
  · simp [gvInt_isSome, *]
  · simp [*]

/-- "The conversion of `x : t` to the rep `C` and the unit with integer ratio `m` is clean": the
common type of `t` and `C` is `C`, the ratio is an integer that fits `C`, the stored value keeps its
value in `C` (no wrap on the rep cast) and the scaled value is in range of `C` (no overflow, no
narrowing). -/
def CleanConv (t C : IntTy) (m : Mag) (x : Int) : Prop :=
  C ∈ IntTy.all ∧ IntTy.common t C = C ∧ m.isInteger = true ∧ (m.num : Int) ≤ C.hi ∧ C.inRange x ∧
    C.inRange (x * (m.num : Int))

theorem applyMagI_ok (t : IntTy) (ht : t ∈ IntTy.all) (K : Mag) (hK : K.isInteger = true)
    (hfit : (K.num : Int) ≤ t.hi) (x : Int) (hxn : t.inRange (x * (K.num : Int))) :
    applyMagI t K x = .ok (x * (K.num : Int)) := by
  have hcat := categorizeMag_of_isInteger hK
  have hc : compiles t K.num 1 = true := by
    unfold compiles; rw [categorize_one]; exact (gvInt_isSome _ _).2 hfit
  have hp := promote_inRange t ht _ hxn
  have := (applyMag_clean_iff t ht K.num 1 (by decide) x (x * K.num)
    fun e => by rwa [e, Int.natCast_one, Int.mul_one] at hp).2 ⟨hp, by simpa using hxn, by simp⟩
  simp only [applyMagI, hcat, den_of_isInteger K hK, hc, if_true, this]

/-- `q.as<C>(unit)` / `ResultT{q}` on a clean integral conversion. -/
theorem construct_ok (t C : IntTy) (m : Mag) (x : Int) (h : CleanConv t C m x) :
    construct (.int t) (.int C) m (.i x) = .ok (.i (x * (m.num : Int))) := by
  obtain ⟨hC, hcm, hm, hfit, hx, hxn⟩ := h
  unfold construct
  simp only [ArithTy.common, hcm, staticCast, Res.bind_ok, wrap_of_inRange C hC x hx, applyMagnitude,
    applyMagI_ok C hC m hm hfit x hxn, wrap_of_inRange C hC _ hxn]

theorem Mag.num_nil : Mag.num [] = 1 := rfl

/-- `detail::cast_to_common_type<C>(q)` on a clean integral conversion. -/
theorem toCommon_ok (t C : IntTy) (m : Mag) (x : Int) (h : CleanConv t C m x) :
    toCommon (.int t) (.int C) m (.i x) = .ok (.i (x * (m.num : Int))) := by
  obtain ⟨hC, hcm, hm, hfit, hx, hxn⟩ := h
  have h1 : CleanConv t C [] x :=
    ⟨hC, hcm, rfl, by have := hi_pos C hC; simp [Mag.num_nil]; omega, hx, by simpa [Mag.num_nil] using hx⟩
  simp only [toCommon, construct_ok t C [] x h1, Res.bind_ok, Mag.num_nil, Int.natCast_one, Int.mul_one]
  exact construct_ok C C m x ⟨hC, common_self C, hm, hfit, hx, hxn⟩

/-- `Quantity::in<C>(unit)` skips `apply_magnitude` for the empty magnitude and the same rep, where
it would have multiplied by one. -/
theorem convert_ok (t C : IntTy) (m : Mag) (x : Int) (h : CleanConv t C m x) :
    convert (.int t) (.int C) m (.i x) = .ok (.i (x * (m.num : Int))) := by
  unfold convert
  split
  · next he =>
    have : m = [] := List.isEmpty_iff.1 (Bool.and_eq_true_iff.1 he).1
    simp [this, Mag.num_nil]
  · exact construct_ok t C m x h

/-- `UNITY.in<T>(…)` for integral `T` and an integer constant that fits: the constant itself. -/
theorem unityIn_ok (t : IntTy) (ht : t ∈ IntTy.all) (K : Mag) (hK : K.isInteger = true)
    (hfit : (K.num : Int) ≤ t.hi) : unityIn (.int t) K = .ok (.i (K.num : Int)) := by
  have h1 : t.inRange 1 := ⟨by have := lo_nonpos t ht; omega, by have := hi_pos t ht; omega⟩
  have hN := inRange_of_nat t ht _ hfit
  simp only [unityIn, (getValueI_isSome_iff t K).2 ⟨hK, hfit⟩, Bool.not_true, Bool.false_eq_true, if_false,
    convert_ok t t K 1 ⟨ht, common_self t, hK, hfit, h1, by rwa [Int.one_mul]⟩, Int.one_mul]

/-- The arithmetic heart of the inverse round trip. -/
theorem div_div_self (K n : Nat) (hn : 0 < n) (h : n * n ≤ K) : K / (K / n) = n := by
  have hq : n ≤ K / n := (Nat.le_div_iff_mul_le hn).2 h
  have hq0 : 0 < K / n := Nat.lt_of_lt_of_le hn hq
  have h1 : n * (K / n) ≤ K := Nat.mul_div_le K n
  have h2 : K < n * (K / n) + n := by
    have := Nat.lt_mul_div_succ K hn
    rw [Nat.mul_succ] at this
    exact this
  apply Nat.div_eq_of_lt_le
  · rw [Nat.mul_comm] at h1; rw [Nat.mul_comm]; exact h1
  · calc K < n * (K / n) + n := h2
      _ ≤ n * (K / n) + K / n := Nat.add_le_add_left hq _
      _ = (n + 1) * (K / n) := by rw [Nat.succ_mul]

/-- The threshold of `inverse_in` is `1000²`. -/
theorem sq_le_of_le_thousand {K n : Nat} (hK : 1000000 ≤ K) (h : n ≤ 1000) : n * n ≤ K :=
  Nat.le_trans (Nat.mul_le_mul h h) hK

theorem ite_valLt_max (a b : Int) : (if valLt (.i a) (.i b) then Val.i b else .i a) = .i (max a b) := by
  by_cases h : a < b <;> simp [valLt, h] <;> omega

theorem ite_valLt_min (a b : Int) : (if valLt (.i b) (.i a) then Val.i b else .i a) = .i (min a b) := by
  by_cases h : b < a <;> simp [valLt, h] <;> omega

theorem mul_lt_mul_iff_of_common_factor {k : Nat} (hk : 0 < k) (x y : Int) (a b : Nat) :
    x * ((k * a : Nat) : Int) < y * ((k * b : Nat) : Int) ↔ x * (a : Int) < y * (b : Int) := by
  rw [Int.natCast_mul, Int.natCast_mul, Int.mul_left_comm, Int.mul_left_comm y]
  exact Int.mul_lt_mul_left (by omega)

theorem FltTy.prec_emax (f : FltTy) : 0 < f.prec ∧ 1 ≤ f.emax ∧ (f.prec : Int) ≤ f.emax + 1 := by
  cases f <;> decide

theorem ilog2_nat (a : Nat) (ha : a ≠ 0) : ilog2 a 1 = (Nat.log2 a : Int) := by
  have h1 : Nat.log2 1 = 0 := by decide
  have h0 : (Nat.log2 a : Int) ≥ 0 := by omega
  simp [ilog2, pow2Le, h1, h0, Nat.log2_self_le ha]

theorem roundHalfEven_nonpos (a : Nat) (j : Nat) : roundHalfEven a 1 (-(j : Int)) = a * 2 ^ j := by
  by_cases hj : j = 0
  · subst hj; simp [roundHalfEven, Nat.mod_one]
  · simp [roundHalfEven, hj, Nat.mod_one]

theorem pow2_neg_nat (j : Nat) : pow2 (-(j : Int)) = 1 / ((2 ^ j : Nat) : Rat) := by
  by_cases hj : j = 0
  · subst hj; decide +kernel
  · simp [pow2, hj]

theorem natCast_mul_two_pow_div_two_pow (a j : Nat) : ((a * 2 ^ j : Nat) : Rat) * (1 / ((2 ^ j : Nat) : Rat)) = (a : Rat) := by
  have hne : ((2 ^ j : Nat) : Rat) ≠ 0 := by
    intro h
    have : (2 ^ j : Nat) = 0 := by exact_mod_cast h
    have := Nat.two_pow_pos j
    omega
  rw [Rat.natCast_mul, Rat.div_def, Rat.one_mul, Rat.mul_assoc, Rat.mul_inv_cancel _ hne, Rat.mul_one]

theorem rnePos_nat (f : FltTy) (a : Nat) (ha : a ≠ 0) (hlt : a < 2 ^ f.prec) :
    rnePos f a 1 = some (a : Rat) := by
  obtain ⟨hp0, he1, hp⟩ := f.prec_emax
  have hl : Nat.log2 a < f.prec := (Nat.log2_lt ha).2 hlt
  -- the quantum exponent is non-positive, so the significand is `a` scaled up, exactly
  obtain ⟨j, hj⟩ : ∃ j : Nat,
      max ((Nat.log2 a : Int) - (f.prec : Int) + 1) (1 - f.emax - (f.prec : Int) + 1) = -(j : Int) :=
    ⟨(-(max ((Nat.log2 a : Int) - (f.prec : Int) + 1) (1 - f.emax - (f.prec : Int) + 1))).toNat, by omega⟩
  -- no overflow: `a < 2^p ≤ 2^(emax+1)`
  have hnot : ¬ ((a : Rat) ≥ pow2 (f.emax + 1)) := by
    have h0 : (0 : Int) ≤ f.emax + 1 := by omega
    rw [show pow2 (f.emax + 1) = ((2 ^ (f.emax + 1).toNat : Nat) : Rat) by simp [pow2, h0], ge_iff_le,
      Rat.natCast_le_natCast]
    have := Nat.pow_le_pow_right (n := 2) (by decide) (show f.prec ≤ (f.emax + 1).toNat by omega)
    omega
  simp only [rnePos, ilog2_nat a ha, hj, roundHalfEven_nonpos, pow2_neg_nat, natCast_mul_two_pow_div_two_pow]
  simp [hnot]

theorem FVal.ceil_fin (v : Rat) : FVal.ceil (.fin v) = .fin (v.ceil : Rat) := by
  rw [Rat.ceil_eq_neg_floor_neg]; rfl

/-- Away from zero: `⌊v + 1/2⌋` for `v ≥ 0`, and `-⌊-v + 1/2⌋ = ⌈v - 1/2⌉` below. -/
theorem FVal.round_fin (v : Rat) :
    FVal.round (.fin v) = .fin ((if v ≥ 0 then (v + 1 / 2).floor else (v - 1 / 2).ceil : Int) : Rat) := by
  have e : -v + 1 / 2 = -(v - 1 / 2) := by grind
  by_cases hv : v ≥ 0 <;> simp [FVal.round, hv, e, Rat.ceil_eq_neg_floor_neg]

theorem fnApply_int (fn : RFn) (z : Int) : fn.apply (.fin (z : Rat)) = .fin (z : Rat) := by
  have h1 : ((z : Rat) + 1 / 2).floor = z := by
    rw [Rat.add_comm, Rat.floor_add_intCast, show ((1 : Rat) / 2).floor = 0 by decide +kernel, Int.zero_add]
  have h2 : ((z : Rat) - 1 / 2).ceil = z := by
    rw [Rat.sub_eq_add_neg, Rat.add_comm, Rat.ceil_add_intCast, show (-((1 : Rat) / 2)).ceil = 0 by decide +kernel,
      Int.zero_add]
  cases fn <;> simp [RFn.apply, FVal.floor, FVal.ceil_fin, FVal.round_fin, h1, h2]

end Au.C15
