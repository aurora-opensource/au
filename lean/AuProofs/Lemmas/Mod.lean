/-
  Lemmas about AuModel.Mod.  A `W` computation is reasoned about in one of three ways:
  exactly (`x = W.ok v`: value and all flags; composed with `ok_bind`), by its value alone
  (`bind_val`), or by its value when the fuel sufficed (`bind_stuck`).  Bounds are written `2 ^ 64`
  (not `M`) throughout, so that `omega` sees them.
-/
import AuModel.Mod
import Mathlib.Tactic.Ring
import Mathlib.Data.Int.ModEq
namespace Au
namespace U64

theorem M_eq : M = 2 ^ 64 := by decide
theorem maxU_eq : maxU = M - 1 := by decide

theorem pure_eq_ok {α : Type} (a : α) : (pure a : W α) = W.ok a := rfl

/- `ok_bind`, `bind_val`, `bind_stuck` hold by `rfl`, but are proved otherwise on purpose: `simp` would use
a `rfl` lemma without recording it, and the kernel, left to check the whole simplification as one
conversion, unfolds the loops under the binds (minutes, then "deep recursion"). -/
@[simp] theorem ok_bind {α β : Type} (a : α) (f : α → W β) : (W.ok a >>= f) = f a := by
  show (⟨_, false || _, false || _, false || _⟩ : W β) = f a
  simp

theorem bind_val {α β : Type} (x : W α) (f : α → W β) : (x >>= f).val = (f x.val).val := by
  cases x; rfl
theorem bind_stuck {α β : Type} (x : W α) (f : α → W β) : (x >>= f).stuck = (x.stuck || (f x.val).stuck) := by
  cases x; rfl
theorem bind_stuck_eq_false {α β : Type} (x : W α) (f : α → W β) :
    (x >>= f).stuck = false ↔ x.stuck = false ∧ (f x.val).stuck = false := by
  rw [bind_stuck, Bool.or_eq_false_iff]

theorem ite_val {α : Type} (c : Prop) [Decidable c] (x y : W α) : (if c then x else y).val = if c then x.val else y.val := by
  split <;> rfl

theorem add_ok {a b : Nat} (h : a + b < 2 ^ 64) : add a b = W.ok (a + b) := by
  rw [← M_eq] at h
  simp [add, Nat.mod_eq_of_lt h, Nat.not_le.2 h]

theorem sub_ok {a b : Nat} (hb : b ≤ a) (ha : a < 2 ^ 64) : sub a b = W.ok (a - b) := by
  have h : (a + M - b) % M = a - b := by
    rw [M_eq, show a + 2 ^ 64 - b = a - b + 2 ^ 64 by omega, Nat.add_mod_right, Nat.mod_eq_of_lt (by omega)]
  simp [sub, h, Nat.not_lt.2 hb]

theorem mul_ok {a b : Nat} (h : a * b < 2 ^ 64) : mul a b = W.ok (a * b) := by
  rw [← M_eq] at h
  simp [mul, Nat.mod_eq_of_lt h, Nat.not_le.2 h]

theorem div_ok {a b : Nat} (h : 0 < b) : div a b = W.ok (a / b) := by
  simp [div, Nat.pos_iff_ne_zero.1 h]

theorem mod_ok {a b : Nat} (h : 0 < b) : mod a b = W.ok (a % b) := by
  simp [mod, Nat.pos_iff_ne_zero.1 h]

theorem div_val (a b : Nat) : (div a b).val = a / b := rfl

/-- `add_mod` under a slightly weaker precondition than documented (`a ≤ n`): `mul_mod` calls it
with `chunk_result = n - 0 = n`. -/
theorem addMod_spec {a b n : Nat} (ha : a ≤ n) (hb : b < n) (hn : n < 2 ^ 64) :
    addMod a b n = W.ok ((a + b) % n) := by
  unfold addMod
  rw [sub_ok hb.le hn, ok_bind]
  split
  · rw [sub_ok ‹_› (by omega), show a + b = a - (n - b) + n by omega, Nat.add_mod_right, Nat.mod_eq_of_lt (by omega)]
  · rw [add_ok (by omega), Nat.mod_eq_of_lt (by omega)]

theorem subMod_spec {a b n : Nat} (ha : a < n) (hb : b < n) (hn : n < 2 ^ 64) :
    subMod a b n = W.ok ((a + (n - b)) % n) := by
  unfold subMod
  split
  · rw [sub_ok ‹_› (by omega), show a + (n - b) = a - b + n by omega, Nat.add_mod_right, Nat.mod_eq_of_lt (by omega)]
  · rw [sub_ok (by omega) (by omega), ok_bind, sub_ok (by omega) hn, show a + (n - b) = n - (b - a) by omega,
      Nat.mod_eq_of_lt (by omega)]

theorem mulMod_fast_no_wrap {a b : Nat} (h : b = 0 ∨ a < maxU / b) : a * b < 2 ^ 64 := by
  rcases h with rfl | h
  · simp
  · have h1 : maxU / b * b ≤ maxU := Nat.div_mul_le_self maxU b
    have h2 : (a + 1) * b ≤ maxU / b * b := Nat.mul_le_mul_right b h
    have h3 : maxU < 2 ^ 64 := by decide
    rw [Nat.add_mul] at h2
    omega

theorem mulMod_slow_pos {a b : Nat} (h : ¬(b = 0 ∨ a < maxU / b)) (hb : b < 2 ^ 64) : 0 < a := by
  have : 0 < maxU / b := Nat.div_pos (by rw [maxU_eq, M_eq]; omega) (by omega)
  omega

theorem mulMod_chunk_arith (a b n q c l r : Nat) (hq : a * q ≤ n) (hb : b = c * q + l)
    (hr : r = (n - a * q) * c % n) (hrn : r ≤ n) :
    (n - r + a * l % n) % n = a * b % n := by
  -- modulo `n`: `n - r ≡ -(n - a q) c ≡ a q c`, and `a b = a q c + a l`
  apply Int.natCast_inj.1
  subst hb hr
  push_cast [Nat.cast_sub hrn, Nat.cast_sub hq]
  show _ ≡ _ [ZMOD n]
  calc (n : ℤ) - (n - a * q) * c % n + a * l % n ≡ n - (n - a * q) * c + a * l [ZMOD n] :=
        ((Int.ModEq.refl _).sub (Int.mod_modEq _ _)).add (Int.mod_modEq _ _)
    _ ≡ a * (c * q + l) [ZMOD n] := (Int.modEq_iff_dvd.2 ⟨1 - c, by ring⟩).symm

theorem mulModF_spec (fuel a b n : Nat) (ha : a ≤ fuel) (han : a < n) (hbn : b < n) (hn : n < 2 ^ 64) :
    mulModF fuel a b n = W.ok (a * b % n) := by
  fun_induction mulModF fuel a b n with
  | case1 fuel a b n hc => rw [mul_ok (mulMod_fast_no_wrap hc), ok_bind, mod_ok (by omega)]
  | case2 a b n hc => have := mulMod_slow_pos hc (by omega); omega
  | case3 a b n hc fuel ih =>
    -- q = chunk_size, c = num_chunks; negative_chunk = n % a, leftover = b % q
    have ha1 := mulMod_slow_pos hc (by omega)
    generalize hq : n / a = q
    generalize hc' : b / q = c
    have hq1 : 0 < q := hq ▸ Nat.div_pos han.le ha1
    have haq : a * q ≤ n := hq ▸ Nat.mul_div_le n a
    have hneg : n - a * q = n % a := by have := Nat.div_add_mod n a; rw [hq] at this; omega
    have hcb : c ≤ b := hc' ▸ Nat.div_le_self b q
    have hcq : c * q ≤ b := hc' ▸ Nat.div_mul_le_self b q
    have hl : b - c * q = b % q := by have := Nat.div_add_mod b q; rw [hc', Nat.mul_comm] at this; omega
    have hal : a * (b % q) < n := by
      have : a * (b % q + 1) ≤ a * q := Nat.mul_le_mul_left a (Nat.mod_lt b hq1)
      rw [Nat.mul_add] at this
      omega
    have hmod := Nat.mod_lt n ha1
    have hr : n % a * c % n < n := Nat.mod_lt _ (by omega)
    rw [div_ok ha1, ok_bind, hq, div_ok hq1, ok_bind, hc', mul_ok (by omega), ok_bind, sub_ok haq hn, ok_bind, hneg,
      ih _ _ (by omega) (by omega) (by omega) hn, ok_bind, sub_ok hr.le hn, ok_bind, mul_ok (by omega), ok_bind,
      sub_ok hcq (by omega), ok_bind, hl, mul_ok (by omega), ok_bind, mod_ok (by omega), ok_bind,
      addMod_spec (Nat.sub_le _ _) (Nat.mod_lt _ (by omega)) hn]
    congr 1
    refine mulMod_chunk_arith a b n q c (b % q) _ haq ?_ (by rw [hneg]) hr.le
    rw [← hl]; omega

theorem mulMod_spec {a b n : Nat} (ha : a < n) (hb : b < n) (hn : n < 2 ^ 64) :
    mulMod a b n = W.ok (a * b % n) := mulModF_spec a a b n (Nat.le_refl a) ha hb hn

/-- The value of `half_mod_odd(a, n)` for odd `n`: half of `a` or of `a + n`, whichever is even. -/
def halfV (a n : Nat) : Nat := (a + a % 2 * n) / 2

theorem halfModOdd_spec {a n : Nat} (ha : a < n) (hodd : n % 2 = 1) (hn : n < 2 ^ 64) :
    halfModOdd a n = W.ok (halfV a n) := by
  unfold halfModOdd halfV
  rw [div_ok (by decide), ok_bind, mod_ok (by decide), ok_bind]
  split
  · rw [add_ok (by omega), ‹a % 2 = 0›, Nat.zero_mul]; rfl
  · rw [div_ok (by decide), ok_bind, add_ok (by omega), ok_bind, add_ok (by omega), show a % 2 = 1 by omega, Nat.one_mul]
    congr 1; omega

theorem halfV_spec {a n : Nat} (ha : a < n) (hodd : n % 2 = 1) : halfV a n < n ∧ 2 * halfV a n % n = a := by
  unfold halfV
  rcases Nat.mod_two_eq_zero_or_one a with h | h <;> rw [h]
  · refine ⟨by omega, ?_⟩
    rw [show 2 * ((a + 0 * n) / 2) = a by omega, Nat.mod_eq_of_lt ha]
  · refine ⟨by omega, ?_⟩
    rw [show 2 * ((a + 1 * n) / 2) = a + n by omega, Nat.add_mod_right, Nat.mod_eq_of_lt ha]

theorem powMod_step (result base exp n : Nat) :
    (if exp % 2 = 1 then result * base % n else result) * (base * base % n) ^ (exp / 2) % n
      = result * base ^ exp % n := by
  have hsq : (base * base % n) ^ (exp / 2) % n = base ^ (2 * (exp / 2)) % n := by
    rw [Nat.pow_mod, Nat.mod_mod, ← Nat.pow_mod, ← Nat.pow_two, ← Nat.pow_mul]
  by_cases h : exp % 2 = 1
  · rw [if_pos h]
    have he : exp = 2 * (exp / 2) + 1 := by omega
    conv_rhs => rw [he, Nat.pow_succ]
    rw [Nat.mul_mod, Nat.mod_mod, hsq, ← Nat.mul_mod]
    congr 1
    ring
  · rw [if_neg h]
    have he : exp = 2 * (exp / 2) := by omega
    conv_rhs => rw [he]
    rw [Nat.mul_mod, hsq, ← Nat.mul_mod]

theorem powModLoop_spec (fuel result base exp n : Nat) (hn : n < 2 ^ 64) (he : exp ≤ fuel)
    (hr : result < n) (hb : base < n) : powModLoop fuel result base exp n = W.ok (result * base ^ exp % n) := by
  fun_induction powModLoop fuel result base exp n with
  | case1 result base exp n h0 => omega
  | case2 result base exp n h0 fuel ih =>
    have hsq : base * base % n < n := Nat.mod_lt _ (by omega)
    rw [mod_ok (by decide), ok_bind, ← powMod_step]
    split
    · simp only [mulMod_spec hr hb hn, div_ok (show 0 < 2 by decide), mulMod_spec hb hb hn, ok_bind,
        ih _ _ _ hn (show exp / 2 ≤ fuel by omega) (Nat.mod_lt _ (by omega)) hsq]
    · simp only [pure_eq_ok, div_ok (show 0 < 2 by decide), mulMod_spec hb hb hn, ok_bind,
        ih _ _ _ hn (show exp / 2 ≤ fuel by omega) hr hsq]
  | case3 fuel result base exp n h0 =>
    rw [show exp = 0 by omega, Nat.pow_zero, Nat.mul_one, Nat.mod_eq_of_lt hr]
    rfl

theorem powMod_spec {base exp n : Nat} (hn1 : 1 < n) (hn : n < 2 ^ 64) :
    powMod base exp n = W.ok (base ^ exp % n) := by
  unfold powMod
  rw [mod_ok (by omega), ok_bind, powModLoop_spec _ _ _ _ _ hn (Nat.le_refl _) hn1 (Nat.mod_lt _ (by omega)),
    Nat.one_mul, ← Nat.pow_mod]

end U64
end Au
