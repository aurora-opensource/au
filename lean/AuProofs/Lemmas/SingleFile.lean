/-
  Lemmas about the model of tools/bin/make-single-file (AuModel/SingleFile.lean), property C20.
  Core Lean only.  Both `while` loops of the script are modelled with a bound on the number of
  iterations.  `parse_files` is handled by an invariant rule (`parseLoop_inv`: whatever one iteration
  preserves holds of every finished run), applied in `parse_spec` to three invariants and in
  `parseLoop_det` to a fourth, and a measure for termination;
  `sort_topologically` by a closed form of its dictionary (`mkDeps`) as a function of what has been
  emitted.  Acyclicity enters only through `HasSinks`.
-/
import AuModel.SingleFile
namespace Au
namespace SingleFile
open Relation

/-- `f` includes `h` (there is a line `#include "h"` in the existing file `f`). -/
def Edge (g : Graph) (f h : File) : Prop := ∃ l, g.lookup f = some l ∧ h ∈ l

/-- Own inductive: `Relation.ReflTransGen` is Mathlib, and this file is core only. -/
inductive Reach (g : Graph) : File → File → Prop
  | refl (f : File) : Reach g f f
  | step {f h k : File} : Edge g f h → Reach g h k → Reach g f k

theorem Reach.tail {g : Graph} {a b c : File} (h1 : Reach g a b) (e : Edge g b c) : Reach g a c := by
  induction h1 with
  | refl => exact .step e (.refl c)
  | step e' _ ih => exact .step e' (ih e)

/-- The files the selection transitively needs. -/
def Reachable (g : Graph) (names : List File) (f : File) : Prop := ∃ s, s ∈ names ∧ Reach g s f

theorem Reachable.of_mem {g : Graph} {names : List File} {s : File} (hs : s ∈ names) :
    Reachable g names s :=
  ⟨s, hs, .refl s⟩

theorem Reachable.mono {g : Graph} {names names' : List File} (hsub : names ⊆ names') {f : File} :
    Reachable g names f → Reachable g names' f
  | ⟨s, hs, hr⟩ => ⟨s, hsub hs, hr⟩

theorem Reachable.edge {g : Graph} {names : List File} {f h : File} (hf : Reachable g names f)
    (e : Edge g f h) : Reachable g names h :=
  let ⟨s, hs, hr⟩ := hf; ⟨s, hs, hr.tail e⟩

theorem Reachable.induction {g : Graph} {names : List File} {S : File → Prop}
    (h0 : ∀ s, s ∈ names → S s) (hS : ∀ f t, S f → Edge g f t → S t) {f : File} :
    Reachable g names f → S f
  | ⟨s, hs, hr⟩ => by
    have hs' := h0 s hs
    clear hs
    induction hr with
    | refl => exact hs'
    | step e _ ih => exact ih (hS _ _ hs' e)

@[simp] theorem parseLoop_nil (g : Graph) (fuel : Nat) (files : List File) :
    parseLoop g fuel [] files = .done files := by
  cases fuel <;> rfl

/-- The stack after the iteration that pops `x`, whose project includes are `incs`. -/
def push (incs files rest : List File) (x : File) : List File :=
  (incs.filter fun t => !((dictSet files x).contains t)).reverse ++ rest

theorem parseLoop_cons (g : Graph) (fuel : Nat) (x : File) (rest files : List File) :
    parseLoop g (fuel + 1) (x :: rest) files =
      match g.lookup x with
      | none => .missing x
      | some incs => parseLoop g fuel (push incs files rest x) (dictSet files x) := rfl

theorem mem_dictSet {files : List File} {f x : File} : x ∈ dictSet files f ↔ x ∈ files ∨ x = f := by
  unfold dictSet
  split
  · exact ⟨Or.inl, fun h => h.elim id (· ▸ ‹f ∈ files›)⟩
  · simp

theorem mem_push {incs files rest : List File} {x t : File} :
    t ∈ push incs files rest x ↔ (t ∈ incs ∧ t ∉ dictSet files x) ∨ t ∈ rest := by
  simp [push, List.mem_filter]

theorem parseLoop_inv {g : Graph} {P : List File → List File → Prop}
    (step : ∀ {x rest files incs}, g.lookup x = some incs → P (x :: rest) files →
      P (push incs files rest x) (dictSet files x)) :
    ∀ {fuel stack files out}, parseLoop g fuel stack files = .done out → P stack files → P [] out
  | _, [], _, _, h, hP => by simp at h; exact h ▸ hP
  | 0, _ :: _, _, _, h, _ => by cases h
  | fuel + 1, x :: rest, files, _, h, hP => by
    rw [parseLoop_cons] at h
    cases hl : g.lookup x with
    | none => rw [hl] at h; cases h
    | some incs => rw [hl] at h; exact parseLoop_inv step h (step hl hP)

theorem dictSet_nodup {files : List File} {f : File} (h : files.Nodup) : (dictSet files f).Nodup := by
  unfold dictSet
  split
  · exact h
  · rename_i hf
    simpa [List.nodup_append, h] using fun a ha (e : a = f) => hf (e ▸ ha)

/-- `t` occurs in the stack `s` strictly above (before) every occurrence of `f`. -/
def Above (t f : File) : List File → Prop
  | [] => False
  | x :: s => x = t ∨ (x ≠ f ∧ Above t f s)

theorem Above.mem {t f : File} : ∀ {s : List File}, Above t f s → t ∈ s
  | [], h => h.elim
  | x :: s, h => by
    rcases h with h | ⟨_, h⟩
    · subst h; simp
    · exact List.mem_cons_of_mem _ (Above.mem h)

theorem above_cons {t f x : File} {s : List File} :
    Above t f (x :: s) ↔ x = t ∨ (x ≠ f ∧ Above t f s) := Iff.rfl

theorem above_append {t f : File} : ∀ {A : List File} (B : List File), f ∉ A →
    (Above t f (A ++ B) ↔ t ∈ A ∨ Above t f B)
  | [], _, _ => by simp
  | x :: A, B, hf => by
    have hx : x ≠ f := fun e => hf (e ▸ List.mem_cons_self ..)
    have ih := above_append (t := t) B fun h => hf (List.mem_cons_of_mem _ h)
    simp [Above, ih, hx, or_assoc, eq_comm]

/-- The stack discipline of `parse_files`: every include of an already parsed file is parsed
too, or is waiting on the stack above every pending copy of the includer. -/
def PInv (g : Graph) (stack files : List File) : Prop :=
  ∀ f, f ∈ files → ∀ t, Edge g f t → t ∈ files ∨ Above t f stack

theorem PInv_nil (g : Graph) (stack : List File) : PInv g stack [] := by
  intro f hf; simp at hf

theorem PInv_step {g : Graph} {files rest incs : List File} {x : File}
    (hl : g.lookup x = some incs) (inv : PInv g (x :: rest) files) :
    PInv g (push incs files rest x) (dictSet files x) := by
  intro f hf t het
  by_cases ht : t ∈ dictSet files x
  · exact Or.inl ht
  right
  -- only files not yet in the dictionary are pushed, so `f` is not among them
  have hfp : f ∉ (incs.filter fun t => !((dictSet files x).contains t)).reverse := by simp [hf]
  rcases mem_dictSet.1 hf with hf' | rfl
  · rcases (inv f hf' t het).imp_right above_cons.1 with h | h | ⟨_, h⟩
    · exact absurd (mem_dictSet.2 (Or.inl h)) ht
    · exact absurd (mem_dictSet.2 (Or.inr h.symm)) ht
    · exact (above_append _ hfp).2 (.inr h)
  · obtain ⟨l, hl', htl⟩ := het
    cases hl.symm.trans hl'
    exact (above_append _ hfp).2 (.inl (by simp [htl, ht]))

/-- When an already parsed file is popped again, nothing is pushed: its includes are parsed, since
none of them can sit above the top of the stack. -/
theorem push_of_mem {g : Graph} {files rest incs : List File} {x : File}
    (hl : g.lookup x = some incs) (inv : PInv g (x :: rest) files) (hx : x ∈ files) :
    push incs files rest x = rest := by
  have : incs.filter (fun t => !((dictSet files x).contains t)) = [] := by
    apply List.filter_eq_nil_iff.2
    intro t ht
    rcases (inv x hx t ⟨incs, hl, ht⟩).imp_right above_cons.1 with h | h | ⟨h, _⟩
    · simp [mem_dictSet, h]
    · simp [mem_dictSet, h]
    · exact absurd rfl h
  rw [push, this]; rfl

def TargetsExist (g : Graph) : Prop := ∀ f h, Edge g f h → (g.lookup h).isSome = true

/-- `files[f].graph_includes` (empty for a file that does not exist; never used for those). -/
def incOf (g : Graph) (f : File) : List File := (g.lookup f).getD []

/-- Second summand of the termination measure `stack.length + pendingLines g files`, which starts at
the bound `names.length + edgeCount g` of `parseFiles`. -/
def pendingLines (g : Graph) (files : List File) : Nat :=
  (g.map fun kl => if kl.1 ∈ files then 0 else kl.2.length).sum

theorem pendingLines_nil (g : Graph) : pendingLines g [] = edgeCount g := by
  simp [pendingLines, edgeCount]

/-- `≤`, not `=`: should the file be listed more than once in `g`, all its entries go. -/
theorem pendingLines_step {g : Graph} {files : List File} {x : File} (hx : x ∉ files) :
    pendingLines g (dictSet files x) + (incOf g x).length ≤ pendingLines g files := by
  induction g with
  | nil => simp [pendingLines, incOf]
  | cons kl g ih =>
    obtain ⟨k, l⟩ := kl
    simp only [pendingLines, incOf, List.map_cons, List.sum_cons, mem_dictSet, List.lookup_cons] at ih ⊢
    by_cases hk : x = k
    · subst hk; simp [hx]; omega
    · have : (x == k) = false := by simpa using hk
      simp [this, Ne.symm hk]; omega

theorem length_push_add_pendingLines_le {g : Graph} {files rest incs : List File} {x : File}
    (hl : g.lookup x = some incs) (inv : PInv g (x :: rest) files) :
    (push incs files rest x).length + pendingLines g (dictSet files x) ≤ rest.length + pendingLines g files := by
  by_cases hx : x ∈ files
  · rw [push_of_mem hl inv hx]; simp [dictSet, hx]
  · have h1 : pendingLines g (dictSet files x) + incs.length ≤ pendingLines g files := by
      simpa [incOf, hl] using pendingLines_step (g := g) hx
    have h2 := List.length_filter_le (fun t => !((dictSet files x).contains t)) incs
    simp only [push, List.length_append, List.length_reverse]
    omega

theorem parseLoop_total {g : Graph} (hT : TargetsExist g) :
    ∀ (fuel : Nat) (stack files : List File), PInv g stack files →
      (∀ s, s ∈ stack → (g.lookup s).isSome = true) → stack.length + pendingLines g files ≤ fuel →
      ∃ out, parseLoop g fuel stack files = .done out
  | _, [], files, _, _, _ => ⟨files, parseLoop_nil ..⟩
  | 0, _ :: _, _, _, _, hm => by simp at hm
  | fuel + 1, x :: rest, files, inv, hex, hm => by
    obtain ⟨incs, hl⟩ := Option.isSome_iff_exists.1 (hex x (by simp))
    rw [parseLoop_cons, hl]
    refine parseLoop_total hT fuel _ _ (PInv_step hl inv) ?_ ?_
    · intro s hs
      rcases mem_push.1 hs with ⟨h, _⟩ | h
      · exact hT x s ⟨incs, hl, h⟩
      · exact hex s (List.mem_cons_of_mem _ h)
    · have := length_push_add_pendingLines_le hl inv
      simp only [List.length_cons] at hm
      omega

/-- **Termination of `parse_files`**: on a graph whose include targets all exist, for every list
of existing names, `names.length + edgeCount g` iterations suffice. -/
theorem parse_total {g : Graph} (hT : TargetsExist g) (names : List File)
    (hN : ∀ s, s ∈ names → (g.lookup s).isSome = true) :
    ∃ out, parseFiles g names = .done out := by
  unfold parseFiles
  apply parseLoop_total hT _ _ _ (PInv_nil g _)
  · intro s hs; exact hN s (List.mem_reverse.1 hs)
  · simp [pendingLines_nil]

/-- **What `parse_files` computes** (any fuel; `parseFiles` unfolds to the instance with its own
bound): a duplicate-free list whose members are exactly the files reachable from the given names
through project includes. -/
theorem parse_spec {g : Graph} {fuel : Nat} {names out : List File}
    (h : parseLoop g fuel names.reverse [] = .done out) :
    out.Nodup ∧ ∀ f, f ∈ out ↔ Reachable g names f := by
  refine ⟨parseLoop_inv (P := fun _ files => files.Nodup) (fun _ => dictSet_nodup) h .nil,
    fun f => ⟨?_, ?_⟩⟩
  · -- whatever is parsed or waiting is reachable
    refine fun hf => parseLoop_inv (P := fun stack files => ∀ f, f ∈ files ∨ f ∈ stack → Reachable g names f)
      ?_ h (fun f hf => .of_mem (by simpa using hf)) f (Or.inl hf)
    intro x rest files incs hl ih f hf
    have hx := ih x (Or.inr (by simp))
    simp only [mem_dictSet, mem_push] at hf
    rcases hf with (hf | rfl) | ⟨hf, -⟩ | hf
    · exact ih f (Or.inl hf)
    · exact hx
    · exact hx.edge ⟨incs, hl, hf⟩
    · exact ih f (Or.inr (List.mem_cons_of_mem _ hf))
  · -- the names are parsed or waiting, and the stack discipline holds; at the end nothing waits
    have ⟨inv, hn⟩ := parseLoop_inv
      (P := fun stack files => PInv g stack files ∧ ∀ s, s ∈ names → s ∈ files ∨ s ∈ stack)
      ?_ h ⟨PInv_nil g _, fun s hs => Or.inr (List.mem_reverse.2 hs)⟩
    · exact Reachable.induction (fun s hs => (hn s hs).resolve_right (by simp))
        fun f t hf e => (inv f hf t e).resolve_right id
    · rintro x rest files incs hl ⟨inv, hn⟩
      refine ⟨PInv_step hl inv, fun s hs => ?_⟩
      rw [mem_dictSet, mem_push]
      rcases hn s hs with h | h
      · exact .inl (.inl h)
      · exact (List.mem_cons.1 h).elim (fun e => .inl (.inr e)) fun h => .inr (.inr h)

theorem parseLoop_det {g : Graph} {f1 f2 : Nat} {stack files o o' : List File}
    (h : parseLoop g f1 stack files = .done o) (h' : parseLoop g f2 stack files = .done o') :
    o = o' := by
  have ⟨f2, h'⟩ := parseLoop_inv (P := fun stack files => ∃ f2, parseLoop g f2 stack files = .done o')
    ?_ h ⟨f2, h'⟩
  · simpa using h'
  · rintro x rest files incs hl ⟨f2, h'⟩
    cases f2 with
    | zero => cases h'
    | succ f2 => rw [parseLoop_cons, hl] at h'; exact ⟨f2, h'⟩

theorem edge_iff_mem_incOf {g : Graph} {f h : File} : Edge g f h ↔ h ∈ incOf g f := by
  unfold Edge incOf
  cases g.lookup f <;> simp

def IncNodup (g : Graph) : Prop := ∀ f l, g.lookup f = some l → l.Nodup

theorem incOf_nodup {g : Graph} (hN : IncNodup g) (f : File) : (incOf g f).Nodup := by
  unfold incOf
  cases hl : g.lookup f with
  | none => simp
  | some l => simpa using hN f l hl

def RankAcyclic (g : Graph) : Prop := ∃ rank : File → Nat, ∀ f h, Edge g f h → rank h < rank f

/-- Closed form of the dictionary `unvisited_deps`: keys `K`, and for each key its include list
with the files already emitted (`done`) removed. -/
def mkDeps (g : Graph) (K done : List File) : Deps :=
  K.map (fun k => (k, (incOf g k).filter (fun h => !(done.contains h))))

theorem initDeps_eq (g : Graph) (files : List File) : initDeps g files = mkDeps g files [] := by
  unfold initDeps mkDeps incOf
  exact List.map_congr_left fun k _ => by rw [List.filter_eq_self.2 (by simp)]

theorem keys_mkDeps (g : Graph) (K done : List File) : (mkDeps g K done).map (·.1) = K := by
  unfold mkDeps; simp [List.map_map, Function.comp_def]

theorem lookup_mkDeps (g : Graph) {K : List File} (done : List File) {k : File} (hk : k ∈ K) :
    (mkDeps g K done).lookup k = some ((incOf g k).filter (fun h => !(done.contains h))) := by
  induction K with
  | nil => simp at hk
  | cons a K ih =>
    by_cases e : k = a
    · subst e; simp [mkDeps]
    · have : (k == a) = false := by simpa using e
      simpa [mkDeps, List.lookup, this] using ih ((List.mem_cons.1 hk).resolve_left e)

theorem cleanAll_mkDeps {g : Graph} (hN : IncNodup g) (K done : List File) (f : File) :
    cleanAll (mkDeps g K done) f = mkDeps g K (done ++ [f]) := by
  unfold cleanAll mkDeps
  rw [List.map_map]
  apply List.map_congr_left
  intro k _
  simp only [Function.comp]
  congr 1
  have hn : ((incOf g k).filter (fun h => !(done.contains h))).Nodup := (incOf_nodup hN k).filter _
  rw [hn.erase_eq_filter, List.filter_filter]
  apply List.filter_congr
  intro x _
  by_cases h1 : x = f <;> by_cases h2 : x ∈ done <;> simp [h1, h2]

theorem popAll_mkDeps (g : Graph) (K done ext : List File) :
    popAll (mkDeps g K done) ext = mkDeps g (K.filter (fun k => !(ext.contains k))) done := by
  unfold popAll mkDeps
  rw [List.filter_map]
  rfl

/-- `l` lists files latest first; each is followed in `l` by all its includes. -/
def TopoRev (g : Graph) : List File → Prop
  | [] => True
  | f :: l => (∀ h, Edge g f h → h ∈ l) ∧ TopoRev g l

/-- On the reversed list, because the script appends. -/
def Topo (g : Graph) (l : List File) : Prop := TopoRev g l.reverse

theorem topo_snoc {g : Graph} {l : List File} {f : File} :
    Topo g (l ++ [f]) ↔ (∀ h, Edge g f h → h ∈ l) ∧ Topo g l := by
  simp [Topo, TopoRev]

theorem TopoRev.includes_after {g : Graph} {f : File} {a : List File} :
    ∀ (b : List File), TopoRev g (b ++ f :: a) → ∀ h, Edge g f h → h ∈ a
  | [], h => h.1
  | _ :: b, h => TopoRev.includes_after b h.2

theorem Topo.includes_before {g : Graph} {order : List File} (hT : Topo g order) :
    ∀ a f b, order = a ++ f :: b → ∀ h, Edge g f h → h ∈ a := by
  rintro a f b rfl h hh
  have hT' : TopoRev g (b.reverse ++ f :: a.reverse) := by simpa [Topo] using hT
  simpa using TopoRev.includes_after b.reverse hT' h hh

/-- `ext`: the files this pass over `ks` appends, in the order of the keys. -/
theorem round_mkDeps {g : Graph} (hN : IncNodup g) (K : List File) :
    ∀ (ks done added : List File), (∀ k, k ∈ ks → k ∈ K) → Topo g done →
    ∃ ext, roundLoop ks (mkDeps g K done) added = (mkDeps g K (done ++ ext), added ++ ext) ∧
      ext.Sublist ks ∧ Topo g (done ++ ext) ∧
      (∀ k, k ∈ ks → (∀ h, Edge g k h → h ∈ done) → k ∈ ext)
  | [], done, added, _, hT => ⟨[], by simp [roundLoop], .refl _, by simpa using hT, by simp⟩
  | f :: ks, done, added, hK, hT => by
    have hl := lookup_mkDeps g done (hK f (by simp))
    have hK' : ∀ k, k ∈ ks → k ∈ K := fun k hk => hK k (List.mem_cons_of_mem _ hk)
    cases hflt : (incOf g f).filter (fun h => !(done.contains h)) with
    | nil =>
      -- all includes of `f` are emitted: `f` is appended and struck from the other lists
      have hall : ∀ h, Edge g f h → h ∈ done := fun h e => by
        simpa using List.filter_eq_nil_iff.1 hflt h (edge_iff_mem_incOf.1 e)
      obtain ⟨ext, h1, h2, h3, h4⟩ :=
        round_mkDeps hN K ks (done ++ [f]) (added ++ [f]) hK' (topo_snoc.2 ⟨hall, hT⟩)
      refine ⟨f :: ext, ?_, h2.cons_cons f, by simpa using h3, List.forall_mem_cons.2 ⟨by simp, ?_⟩⟩
      · simp only [roundLoop, hl, hflt, cleanAll_mkDeps hN]
        rw [h1]; simp
      · exact fun k hk hinc =>
          List.mem_cons_of_mem _ (h4 k hk fun h hh => List.mem_append_left _ (hinc h hh))
    | cons y ys =>
      obtain ⟨ext, h1, h2, h3, h4⟩ := round_mkDeps hN K ks done added hK' hT
      refine ⟨ext, ?_, h2.cons f, h3, List.forall_mem_cons.2 ⟨fun hinc => ?_, h4⟩⟩
      · simp only [roundLoop, hl, hflt]
        exact h1
      · rw [List.filter_eq_nil_iff.2 fun h hh => by simpa using hinc h (edge_iff_mem_incOf.2 hh)] at hflt
        cases hflt

@[simp] theorem sortLoop_nil (fuel : Nat) (ready : List File) : sortLoop fuel [] ready = .done ready := by
  cases fuel <;> rfl

theorem sortLoop_succ (fuel : Nat) {d : Deps} (hd : d ≠ []) (ready : List File) :
    sortLoop (fuel + 1) d ready =
      sortLoop fuel (popAll (roundLoop (d.map (·.1)) d []).1 (roundLoop (d.map (·.1)) d []).2)
        (ready ++ (roundLoop (d.map (·.1)) d []).2) := by
  cases d with
  | nil => exact absurd rfl hd
  | cons kl rest => rfl

def HasSinks (g : Graph) : Prop :=
  ∀ K : List File, K ≠ [] → ∃ k, k ∈ K ∧ ∀ h, Edge g k h → h ∉ K

/-- The keys still in the dictionary: the files not emitted yet, in their original order. -/
def unemitted (files ready : List File) : List File := files.filter fun f => !(ready.contains f)

theorem mem_unemitted {files ready : List File} {f : File} :
    f ∈ unemitted files ready ↔ f ∈ files ∧ f ∉ ready := by
  simp [unemitted]

theorem unemitted_append (files ready ext : List File) :
    unemitted files (ready ++ ext) = (unemitted files ready).filter fun k => !(ext.contains k) := by
  unfold unemitted
  rw [List.filter_filter]
  exact List.filter_congr fun x _ => by simp [Bool.and_comm]

/-- `ext`: the files this round emits. -/
theorem sortLoop_round {g : Graph} (hN : IncNodup g) (hA : HasSinks g) {files : List File} (hF : files.Nodup)
    (hclosed : ∀ f, f ∈ files → ∀ h, Edge g f h → h ∈ files) (fuel : Nat) {ready : List File}
    (hr : ready.Nodup) (hsub : ∀ x, x ∈ ready → x ∈ files) (hT : Topo g ready)
    (hne : unemitted files ready ≠ []) :
    ∃ ext, sortLoop (fuel + 1) (mkDeps g (unemitted files ready) ready) ready =
        sortLoop fuel (mkDeps g (unemitted files (ready ++ ext)) (ready ++ ext)) (ready ++ ext) ∧
      (ready ++ ext).Nodup ∧ (∀ x, x ∈ ready ++ ext → x ∈ files) ∧ Topo g (ready ++ ext) ∧
      (unemitted files (ready ++ ext)).length < (unemitted files ready).length := by
  have hd : mkDeps g (unemitted files ready) ready ≠ [] := fun h =>
    hne (by simpa [keys_mkDeps] using congrArg (List.map (·.1)) h)
  obtain ⟨ext, h1, h2, h3, h4⟩ :=
    round_mkDeps hN (unemitted files ready) (unemitted files ready) ready [] (fun _ h => h) hT
  have hext : ∀ x, x ∈ ext → x ∈ files ∧ x ∉ ready := fun x hx => mem_unemitted.1 (h2.subset hx)
  refine ⟨ext, ?_, ?_, ?_, h3, ?_⟩
  · rw [sortLoop_succ fuel hd, keys_mkDeps, h1, popAll_mkDeps, unemitted_append, List.nil_append]
  · exact List.nodup_append.2 ⟨hr, h2.nodup (hF.filter _), fun a ha b hb e => (hext b hb).2 (e ▸ ha)⟩
  · exact fun x hx => (List.mem_append.1 hx).elim (hsub x) fun h => (hext x h).1
  · -- a sink among the remaining keys has all its includes emitted already
    obtain ⟨k, hk, hsink⟩ := hA _ hne
    have hkext : k ∈ ext := h4 k hk fun h e =>
      Classical.byContradiction fun hr' =>
        hsink h e (mem_unemitted.2 ⟨hclosed k (mem_unemitted.1 hk).1 h e, hr'⟩)
    rw [unemitted_append]
    exact List.length_filter_lt_length_iff_exists.2 ⟨k, hk, by simp [hkext]⟩

theorem sortLoop_spec {g : Graph} (hN : IncNodup g) (hA : HasSinks g) {files : List File} (hF : files.Nodup)
    (hclosed : ∀ f, f ∈ files → ∀ h, Edge g f h → h ∈ files) :
    ∀ (fuel : Nat) (ready : List File), ready.Nodup → (∀ x, x ∈ ready → x ∈ files) → Topo g ready →
      (unemitted files ready).length ≤ fuel →
      ∃ order, sortLoop fuel (mkDeps g (unemitted files ready) ready) ready = .done order ∧
        Topo g order ∧ order.Nodup ∧ ∀ f, f ∈ order ↔ f ∈ files := by
  intro fuel ready hr hsub hT hlen
  by_cases hKn : unemitted files ready = []
  · refine ⟨ready, by rw [hKn]; simp [mkDeps], hT, hr, fun f => ⟨hsub f, fun hf => ?_⟩⟩
    exact Classical.byContradiction fun h => by simpa [hKn] using mem_unemitted.2 ⟨hf, h⟩
  · match fuel with
    | 0 => exact absurd (List.eq_nil_of_length_eq_zero (by omega)) hKn
    | fuel + 1 =>
      obtain ⟨ext, he, hr', hsub', hT', hlt⟩ := sortLoop_round hN hA hF hclosed fuel hr hsub hT hKn
      rw [he]
      exact sortLoop_spec hN hA hF hclosed fuel (ready ++ ext) hr' hsub' hT' (by omega)

/-- **`sort_topologically` on a well-formed graph**: `files.length` rounds suffice, and the result
is a duplicate-free rearrangement of `files` in which every file comes after all its includes. -/
theorem sort_spec {g : Graph} (hN : IncNodup g) (hA : HasSinks g) {files : List File}
    (hF : files.Nodup) (hclosed : ∀ f, f ∈ files → ∀ h, Edge g f h → h ∈ files) :
    ∃ order, sortTopologically g files = .done order ∧ Topo g order ∧ order.Nodup ∧
      ∀ f, f ∈ order ↔ f ∈ files := by
  have hfl : unemitted files [] = files := List.filter_eq_self.2 (by simp)
  have := sortLoop_spec hN hA hF hclosed files.length [] .nil (by simp) trivial (by rw [hfl]; exact Nat.le_refl _)
  rwa [hfl, ← initDeps_eq] at this

theorem mem_of_lookup {g : Graph} {f : File} {l : List File} (h : g.lookup f = some l) : (f, l) ∈ g := by
  obtain ⟨l₁, l₂, rfl, _⟩ := List.lookup_eq_some_iff.1 h
  simp

theorem roundLoop_stuck {d : Deps} (hs : ∀ kl, kl ∈ d → kl.2 ≠ []) :
    ∀ (ks added : List File), roundLoop ks d added = (d, added)
  | [], _ => rfl
  | f :: ks, added => by
    unfold roundLoop
    split
    · exact absurd rfl (hs _ (mem_of_lookup ‹_›))
    · exact roundLoop_stuck hs ks added

/-- While every file left in the dictionary waits for another one, a round leaves the state
unchanged: the `while` loop never exits. -/
theorem sort_stuck {d : Deps} (hd : d ≠ []) (hs : ∀ kl, kl ∈ d → kl.2 ≠ []) :
    ∀ (fuel : Nat) (ready : List File), sortLoop fuel d ready = .outOfFuel
  | 0, _ => by
    cases d with
    | nil => exact absurd rfl hd
    | cons _ _ => rfl
  | fuel + 1, ready => by
    have : popAll d [] = d := List.filter_eq_self.2 (by simp)
    rw [sortLoop_succ fuel hd, roundLoop_stuck hs, this, List.append_nil]
    exact sort_stuck hd hs fuel ready

/-- The include graph has no cycle (the usual definition: no file reaches itself through one or
more includes). -/
def NoCycle (g : Graph) : Prop := ∀ f, ¬ TransGen (Edge g) f f

theorem noCycle_of_rank {g : Graph} (hA : RankAcyclic g) : NoCycle g := by
  obtain ⟨rank, hrank⟩ := hA
  have key : ∀ a b, TransGen (Edge g) a b → rank b < rank a := by
    intro a b h
    induction h with
    | single e => exact hrank _ _ e
    | tail _ e ih => exact Nat.lt_trans (hrank _ _ e) ih
  intro f h
  exact Nat.lt_irrefl _ (key f f h)

/-- **Every finite graph without cycles has sinks in every non-empty set** — so `sort_spec` holds
for every finite acyclic include graph, not only for graphs given with a rank function.  By induction
on the size of `K`: if `k0 ∈ K` is not a sink, the members of `K` strictly below `k0` are fewer (`k0`
is not below itself), and a sink among them is a sink of `K`. -/
theorem hasSinks_of_noCycle {g : Graph} (hC : NoCycle g) : HasSinks g := by
  intro K
  induction hn : K.length using Nat.strongRecOn generalizing K with
  | _ n ih =>
    intro hK
    obtain ⟨k0, hk0⟩ := List.exists_mem_of_ne_nil K hK
    by_cases hex : ∃ h, Edge g k0 h ∧ h ∈ K
    · obtain ⟨h, e, hh⟩ := hex
      classical
      have hlt : (K.filter fun x => decide (TransGen (Edge g) k0 x)).length < n :=
        hn ▸ List.length_filter_lt_length_iff_exists.2 ⟨k0, hk0, by simpa using hC k0⟩
      obtain ⟨k, hk, hs⟩ := ih _ hlt _ rfl
        (List.ne_nil_of_mem (List.mem_filter.2 ⟨hh, by simpa using TransGen.single e⟩))
      obtain ⟨hkK, hk0k⟩ : k ∈ K ∧ TransGen (Edge g) k0 k := by simpa using hk
      exact ⟨k, hkK, fun t et ht => hs t et (List.mem_filter.2 ⟨ht, by simpa using hk0k.tail et⟩)⟩
    · exact ⟨k0, hk0, fun h e hh => hex ⟨h, e, hh⟩⟩

theorem hasSinks_of_rank {g : Graph} (hA : RankAcyclic g) : HasSinks g :=
  hasSinks_of_noCycle (noCycle_of_rank hA)

theorem targetsExist_of_check {g : Graph} (h : targetsExist g = true) : TargetsExist g := by
  intro f t ⟨l, hl, ht⟩
  exact List.all_eq_true.1 (List.all_eq_true.1 h _ (mem_of_lookup hl)) t ht

theorem incNodup_of_check {g : Graph} (h : dupFree g = true) : IncNodup g := by
  intro f l hl
  simpa using List.all_eq_true.1 h _ (mem_of_lookup hl)

theorem rankAcyclic_of_check {g : Graph} (h : rankedById g = true) : RankAcyclic g := by
  refine ⟨id, ?_⟩
  intro f t ⟨l, hl, ht⟩
  simpa using List.all_eq_true.1 (List.all_eq_true.1 h _ (mem_of_lookup hl)) t ht

theorem sortLoop_det : ∀ {f1 f2 : Nat} {d : Deps} {ready o o' : List File},
    sortLoop f1 d ready = .done o → sortLoop f2 d ready = .done o' → o = o'
  | _, _, [], _, _, _, h, h' => by simp at h h'; rw [← h, ← h']
  | 0, _, _ :: _, _, _, _, h, _ => by cases h
  | _ + 1, 0, _ :: _, _, _, _, _, h' => by cases h'
  | f1 + 1, f2 + 1, _ :: _, _, _, _, h, h' => sortLoop_det (f1 := f1) (f2 := f2) h h'

theorem orderWithFuel_done {g : Graph} {names order : List File} {f1 f2 : Nat} :
    orderWithFuel g names f1 f2 = .done order ↔
      ∃ files, parseLoop g f1 names.reverse [] = .done files ∧
        sortLoop f2 (initDeps g files) [] = .done order := by
  unfold orderWithFuel
  cases parseLoop g f1 names.reverse [] <;> simp

theorem emitOrder_done {g : Graph} {names order : List File} :
    emitOrder g names = .done order ↔
      ∃ files, parseLoop g (names.length + edgeCount g) names.reverse [] = .done files ∧
        sortLoop files.length (initDeps g files) [] = .done order := by
  unfold emitOrder parseFiles sortTopologically
  cases parseLoop g (names.length + edgeCount g) names.reverse [] <;> simp

end SingleFile
end Au
