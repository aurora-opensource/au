import AuModel.Pack

/-! # `LexicographicTotalOrdering` (packs.hh:280-320), abstractly

The library orders units (and magnitude / dimension bases) by trying a list of keys in turn and taking the
first one that distinguishes the two operands; if none does, distinct operands trip the
"Broken strict total ordering" `static_assert`.  This construction yields a strict total order under
the two conditions the library relies on: every key is a strict weak order (its "tie" relation is
transitive), and no two distinct operands tie on every key (`lexLt_strictTotal`, in `LexOrderOn`). -/
namespace Au

variable {α : Type}

/-- The `std::is_same<A, B>` short circuit of the recursive case is left out: it only matters for `a = b`, where
irreflexive keys give `false` as well. -/
def lexLt : List (α → α → Bool) → α → α → Bool
  | [], _, _ => false
  | k :: ks, a, b => if k a b then true else if k b a then false else lexLt ks a b

/-- Given to `simp only` as `↓ lexLt_singleton` next to `lexLt`, so that it fires before the last key is unfolded too. -/
theorem lexLt_singleton (k : α → α → Bool) (a b : α) : lexLt [k] a b = k a b := by
  simp only [lexLt]; cases k a b <;> cases k b a <;> rfl

/-- `tieTrans` ("neither before the other" is transitive) is what makes `lexLt` over such keys transitive (`SWOn.lexCons`). -/
structure StrictWeak (k : α → α → Bool) : Prop where
  irrefl : ∀ a, k a a = false
  trans : ∀ a b c, k a b = true → k b c = true → k a c = true
  tieTrans : ∀ a b c, k a b = false → k b a = false → k b c = false → k c b = false → k a c = false ∧ k c a = false

theorem StrictTotal.strictWeak {k : α → α → Bool} (h : StrictTotal k) : StrictWeak k :=
  ⟨h.irrefl, h.trans, fun a b c h1 h2 h3 h4 => by
    obtain rfl := h.total a b h1 h2; obtain rfl := h.total a c h3 h4; exact ⟨h1, h1⟩⟩

theorem natLt_strictTotal : StrictTotal (fun a b : Nat => decide (a < b)) :=
  ⟨fun a => by simp, fun a b c h1 h2 => by simp at *; omega, fun a b h1 h2 => by simp at *; omega⟩

theorem ratLt_strictTotal : StrictTotal (fun a b : Rat => decide (a < b)) :=
  ⟨fun a => by simp, fun a b c h1 h2 => by simp at *; grind, fun a b h1 h2 => by simp at *; grind⟩

theorem ratGt_strictTotal : StrictTotal (fun a b : Rat => decide (b < a)) :=
  have h := ratLt_strictTotal
  ⟨h.irrefl, fun a b c h1 h2 => h.trans c b a h2 h1, fun a b h1 h2 => h.total a b h2 h1⟩

end Au
