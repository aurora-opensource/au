/-
  Integer magnitudes (`NatMag`): the number a pack denotes, its canonical order, and
  `PrimeFactorization<N>`: whenever it produces a pack, the pack is sorted, multiplies back to `N`,
  and every base was accepted by `is_prime`.  The lemmas for `multiplicity` and `int_pow` of factoring.hh,
  which it calls, are here too.
-/
import AuProofs.Lemmas.Factoring
namespace Au
namespace U64

def NatMag.value (m : NatMag) : Nat := (m.map fun be => be.1 ^ be.2).prod

def NatMag.Sorted (m : NatMag) : Prop := List.Pairwise (fun a b : Nat × Nat => a.1 < b.1) m

theorem NatMag.value_cons (b e : Nat) (m : NatMag) : NatMag.value ((b, e) :: m) = b ^ e * NatMag.value m := by
  simp [NatMag.value]

theorem magInsert_value (b p : Nat) (m : NatMag) : NatMag.value (magInsert b p m) = b ^ p * NatMag.value m := by
  fun_induction magInsert b p m with
  | case1 => simp [NatMag.value]
  | case2 => rw [NatMag.value_cons]
  | case3 b' e' t _ _ ih => rw [NatMag.value_cons, ih, NatMag.value_cons, Nat.mul_left_comm]
  | case4 b' e' t h1 h2 =>
    obtain rfl : b = b' := by omega
    rw [NatMag.value_cons, NatMag.value_cons, Nat.pow_add, Nat.mul_assoc, Nat.mul_left_comm]

theorem magInsert_bases {b p : Nat} {m : NatMag} {P : Nat → Prop} (hb : P b) (hm : ∀ be ∈ m, P be.1) :
    ∀ be ∈ magInsert b p m, P be.1 := by
  fun_induction magInsert b p m with
  | case1 => simpa using hb
  | case2 => rw [List.forall_mem_cons]; exact ⟨hb, hm⟩
  | case3 b' e' t _ _ ih =>
    rw [List.forall_mem_cons] at hm ⊢
    exact ⟨hm.1, ih hm.2⟩
  | case4 b' e' t _ _ => simpa using hm

theorem magInsert_sorted {b p : Nat} {m : NatMag} (h : NatMag.Sorted m) : NatMag.Sorted (magInsert b p m) := by
  unfold NatMag.Sorted at h ⊢
  fun_induction magInsert b p m with
  | case1 => simp
  | case2 b' e' t hlt =>
    refine List.pairwise_cons.2 ⟨fun x hx => ?_, h⟩
    rcases List.mem_cons.1 hx with rfl | hx
    · exact hlt
    · exact Nat.lt_trans hlt ((List.pairwise_cons.1 h).1 x hx)
  | case3 b' e' t _ hlt ih =>
    rw [List.pairwise_cons] at h ⊢
    exact ⟨magInsert_bases (P := (b' < ·)) hlt h.1, ih h.2⟩
  | case4 b' e' t _ _ => rw [List.pairwise_cons] at h ⊢; exact h

theorem multiplicityLoop_dvd {f N fuel m n : Nat} (hN : N < 2 ^ 64) (hm : m + fuel ≤ N) (h : f ^ m * n = N) :
    f ^ (multiplicityLoop f fuel m n).val ∣ N := by
  fun_induction multiplicityLoop f fuel m n with
  | case1 m n _ => exact ⟨n, h.symm⟩
  | case2 m n hdiv fuel ih =>
    rw [add_ok (by omega), ok_bind, bind_val]
    refine ih _ _ (by omega) ?_
    rw [Nat.pow_succ, Nat.mul_assoc, div_val,
      Nat.mul_div_cancel' (Nat.dvd_of_mod_eq_zero hdiv), h]
  | case3 fuel m n _ => exact ⟨n, h.symm⟩

theorem multiplicity_dvd {f N : Nat} (hN : N < 2 ^ 64) : f ^ (multiplicity f N).val ∣ N :=
  multiplicityLoop_dvd (fuel := N) (m := 0) hN (by omega) (by simp)

theorem intPowF_spec {b fuel e : Nat} (hb : 0 < b) (he : e ≤ fuel) (hlt : b ^ e < 2 ^ 64) :
    intPowF b fuel e = W.ok (b ^ e) := by
  fun_induction intPowF b fuel e with
  | case1 => rfl
  | case2 => omega
  | case3 e h0 fuel hodd ih =>
    have : b * b ^ (e - 1) = b ^ e := by rw [← Nat.pow_succ', show (e - 1).succ = e by omega]
    rw [ih (by omega) (Nat.lt_of_le_of_lt (Nat.pow_le_pow_right hb (by omega)) hlt), ok_bind, mul_ok (this ▸ hlt), this]
  | case4 e h0 fuel hodd ih =>
    have : b ^ (e / 2) * b ^ (e / 2) = b ^ e := by rw [← Nat.pow_add, show e / 2 + e / 2 = e by omega]
    rw [ih (by omega) (Nat.lt_of_le_of_lt (Nat.pow_le_pow_right hb (by omega)) hlt), ok_bind, mul_ok (this ▸ hlt), this]

/-- One round of `PrimeFactorization<N>` that ends in a pack, read backwards. -/
theorem primeFactorization_succ_mag {fu : Fuel} {table : List Nat} {fuel N : Nat} {m : NatMag} (hN : N < 2 ^ 64)
    (h1 : N ≠ 1) (h0 : N ≠ 0) (h : (primeFactorization fu table (fuel + 1) N).val = .mag m) :
    let base := (findPrimeFactor fu table N).val
    let power := (multiplicity base N).val
    ∃ m', (primeFactorization fu table fuel (N / base ^ power)).val = .mag m' ∧ m = magInsert base power m' ∧
      base ∣ N ∧ base ^ power ∣ N ∧ (isPrime fu base).val = true := by
  intro base power
  have hbd : base ∣ N := findPrimeFactor_dvd fu table N
  have hpd : base ^ power ∣ N := multiplicity_dvd hN
  have hip : (intPow base power).val = base ^ power := by
    unfold intPow
    rw [intPowF_spec (Nat.pos_of_dvd_of_pos hbd (by omega)) (Nat.le_refl _)
      (Nat.lt_of_le_of_lt (Nat.le_of_dvd (by omega) hpd) hN)]
  rw [primeFactorization, if_neg h1, if_neg h0] at h
  simp only [bind_val, show (findPrimeFactor fu table N).val = base from rfl,
    show (multiplicity base N).val = power from rfl, hip, div_val] at h
  split at h
  next => cases h
  next hok =>
    simp only [bind_val] at h
    split at h
    next m' hm' => cases h; exact ⟨m', hm', rfl, hbd, hpd, by simpa using hok⟩
    next => cases h

theorem primeFactorization_spec {fu : Fuel} {table : List Nat} {fuel N : Nat} {m : NatMag} (hN : N < 2 ^ 64)
    (h : (primeFactorization fu table fuel N).val = .mag m) :
    NatMag.value m = N ∧ NatMag.Sorted m ∧ ∀ be ∈ m, (isPrime fu be.1).val = true ∧ be.1 ∣ N := by
  fun_induction primeFactorization fu table fuel N generalizing m with
  | case1 => cases h; simp [NatMag.value, NatMag.Sorted]
  | case2 => cases h
  | case3 => cases h
  | case4 N h1 h0 fuel ih =>
    replace h : (primeFactorization fu table (fuel + 1) N).val = .mag m := by
      rw [primeFactorization, if_neg h1, if_neg h0]; exact h
    obtain ⟨m', hm', rfl, hbd, hpd, hacc⟩ := primeFactorization_succ_mag hN h1 h0 h
    obtain ⟨hv, hsort, hb⟩ := ih _ (Nat.lt_of_le_of_lt (Nat.div_le_self _ _) hN) hm'
    refine ⟨by rw [magInsert_value, hv, Nat.mul_div_cancel' hpd], magInsert_sorted hsort, ?_⟩
    exact magInsert_bases (P := fun b => (isPrime fu b).val = true ∧ b ∣ N) ⟨hacc, hbd⟩
      fun be hbe => ⟨(hb be hbe).1, (hb be hbe).2.trans (Nat.div_dvd_of_dvd hpd)⟩

theorem magOfNat_canonical (fu : Fuel) (table : List Nat) (N : Nat) (h0 : 0 < N) (hN : N < 2 ^ 64) (m : NatMag)
    (h : (magOfNat fu table N).val = .mag m)
    (hsound : ∀ r, r ≤ N → (isPrime fu r).val = true → Nat.Prime r) :
    NatMag.value m = N ∧ NatMag.Sorted m ∧ ∀ be ∈ m, Nat.Prime be.1 := by
  obtain ⟨hval, hsorted, hbases⟩ := primeFactorization_spec hN h
  exact ⟨hval, hsorted, fun be hbe => hsound _ (Nat.le_of_dvd h0 (hbases be hbe).2) (hbases be hbe).1⟩

end U64
end Au
