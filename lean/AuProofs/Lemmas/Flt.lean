/-
  One rounding step of the shared float model (`AuModel.Flt.rne`), the part that needs no rational arithmetic beyond
  comparing natural numbers: `roundEvenDiv n d · d` is within `d/2` of `n`, so it never crosses a multiple of `d`; hence the
  rounded magnitude `m·2^k` of `n/d` never crosses a natural number that is a multiple of its quantum
  (`rneAbs_le_of_le`, `rneAbs_ge_of_ge`).  Consequences: a rational of magnitude at most max(F) never rounds to infinity
  (`rne_finite`), integers of magnitude at most 2^digits are fixed points (`ofInt_exact`).

  Core Lean only: `AuProofs.C05` imports this file and is elaborated without Mathlib.
-/
import AuModel.Flt
namespace Au
open FltTy

theorem roundEvenDiv_near (n d : Nat) (hd : 0 < d) :
    2 * (roundEvenDiv n d * d) ≤ 2 * n + d ∧ 2 * n ≤ 2 * (roundEvenDiv n d * d) + d := by
  have h1 := Nat.div_add_mod n d
  have h2 := Nat.mod_lt n hd
  have h3 : (n / d + 1) * d = n / d * d + d := Nat.succ_mul _ _
  rw [Nat.mul_comm] at h1
  unfold roundEvenDiv
  simp only []
  split
  · omega
  · split
    · omega
    · split <;> omega

theorem roundEvenDiv_le (n d L : Nat) (hd : 0 < d) (h : n ≤ L * d) : roundEvenDiv n d ≤ L := by
  have h1 := (roundEvenDiv_near n d hd).1
  apply Nat.le_of_not_lt
  intro hlt
  have := Nat.mul_le_mul_right d (Nat.succ_le_of_lt hlt)
  rw [Nat.succ_mul] at this
  omega

theorem roundEvenDiv_ge (n d L : Nat) (hd : 0 < d) (h : L * d ≤ n) : L ≤ roundEvenDiv n d := by
  have h1 := (roundEvenDiv_near n d hd).2
  apply Nat.le_of_not_lt
  intro hlt
  have := Nat.mul_le_mul_right d (Nat.succ_le_of_lt hlt)
  rw [Nat.succ_mul] at this
  omega

theorem ilog2_nat (a : Nat) (ha : a ≠ 0) : ilog2 a 1 = (a.log2 : Int) := by
  unfold ilog2
  have h1 : Nat.log2 1 = 0 := by decide
  have h2 := Nat.log2_self_le ha
  simp [h1, h2]

/-- If `n/d < 2^E` then `ilog2 n d < E` (from `2^ilog2 ≤ n/d`, the lower half of `Lemmas/Ilog2.ilog2_spec`; proved in ℕ because
this file is core only). -/
theorem ilog2_lt (n d E : Nat) (hn : n ≠ 0) (h : n < 2 ^ E * d) : ilog2 n d < (E : Int) := by
  -- `n < 2^E·d < 2^(E + log₂d + 1)`, so the first guess `e0 = log₂n − log₂d` is at most `E`; and if it is `E`, the test
  -- `2^e0·d ≤ n` fails and the answer is `e0 − 1`
  have hd : 2 ^ E * d < 2 ^ (E + (d.log2 + 1)) := by
    rw [Nat.pow_add]; exact Nat.mul_lt_mul_of_pos_left Nat.lt_log2_self (Nat.pow_pos (by decide))
  have hlog : n.log2 < E + (d.log2 + 1) := (Nat.log2_lt hn).2 (Nat.lt_trans h hd)
  unfold ilog2
  simp only []
  split
  · split
    · rename_i h0 hc
      by_cases hE : ((n.log2 : Int) - (d.log2 : Int)).toNat = E
      · rw [hE] at hc; omega
      · omega
    · omega
  · split <;> omega

theorem rneAbs_snd (F : FltTy) (n d : Nat) :
    (rneAbs F n d).2 = max (ilog2 n d) F.emin - ((F.prec : Int) - 1) := by
  unfold rneAbs
  simp only []
  split <;> omega

/-- The significand is `(n/d) / 2^k` rounded: whichever sign `k` has, one of the two powers is `2^0`. -/
theorem rneAbs_fst (F : FltTy) (n d : Nat) :
    (rneAbs F n d).1 = roundEvenDiv (n * 2 ^ (-(rneAbs F n d).2).toNat) (d * 2 ^ (rneAbs F n d).2.toNat) := by
  unfold rneAbs
  simp only []
  generalize (if ilog2 n d < F.emin then F.emin else ilog2 n d) - ((F.prec : Int) - 1) = k
  split
  · rw [show (-k).toNat = 0 by omega, Nat.pow_zero, Nat.mul_one]
  · rw [show k.toNat = 0 by omega, Nat.pow_zero, Nat.mul_one]

theorem Flt.mul_fin (F : FltTy) (a b : Rat) : Flt.mul F (.fin a) (.fin b) = rne F (a * b) := rfl

theorem pow2_nonneg' (k : Int) : 0 ≤ pow2 k := by
  unfold pow2
  split
  · exact Rat.natCast_nonneg
  · rw [← Rat.divInt_ofNat]
    exact Rat.divInt_nonneg (by decide) (Int.natCast_nonneg _)

theorem mul_pow2_mul (m : Nat) (k : Int) :
    (m : Rat) * pow2 k * ((2 ^ (-k).toNat : Nat) : Rat) = ((m * 2 ^ k.toNat : Nat) : Rat) := by
  have hpos : ((2 ^ (-k).toNat : Nat) : Rat) ≠ 0 := by
    rw [Ne, Rat.natCast_eq_zero_iff]; exact Nat.ne_of_gt (Nat.pow_pos (by decide))
  unfold pow2
  split
  · rw [show (-k).toNat = 0 by omega]
    simp
  · rw [show k.toNat = 0 by omega, Rat.mul_assoc, Rat.mkRat_eq_div, Rat.div_mul_cancel hpos]
    simp

theorem mul_pow2_le {m U : Nat} {k : Int} (h : m * 2 ^ k.toNat ≤ U * 2 ^ (-k).toNat) : (m : Rat) * pow2 k ≤ (U : Rat) := by
  apply Rat.le_of_mul_le_mul_right (c := ((2 ^ (-k).toNat : Nat) : Rat)) _ (Rat.natCast_pos.2 (Nat.pow_pos (by decide)))
  rw [mul_pow2_mul, ← Rat.natCast_mul]
  exact Rat.natCast_le_natCast.2 h

theorem le_mul_pow2 {m U : Nat} {k : Int} (h : U * 2 ^ (-k).toNat ≤ m * 2 ^ k.toNat) : (U : Rat) ≤ (m : Rat) * pow2 k := by
  apply Rat.le_of_mul_le_mul_right (c := ((2 ^ (-k).toNat : Nat) : Rat)) _ (Rat.natCast_pos.2 (Nat.pow_pos (by decide)))
  rw [mul_pow2_mul, ← Rat.natCast_mul]
  exact Rat.natCast_le_natCast.2 h

/-- `V·2^k.toNat`: any natural number on the grid of the quantum. -/
theorem rneAbs_le_of_le (F : FltTy) (n d : Nat) (hd : 0 < d) (V : Nat)
    (h : n ≤ V * 2 ^ (rneAbs F n d).2.toNat * d) :
    ((rneAbs F n d).1 : Rat) * pow2 (rneAbs F n d).2 ≤ ((V * 2 ^ (rneAbs F n d).2.toNat : Nat) : Rat) := by
  apply mul_pow2_le
  rw [rneAbs_fst, Nat.mul_right_comm V]
  apply Nat.mul_le_mul_right
  apply roundEvenDiv_le _ _ _ (Nat.mul_pos hd (Nat.pow_pos (by decide)))
  calc _ ≤ V * 2 ^ (rneAbs F n d).2.toNat * d * 2 ^ (-(rneAbs F n d).2).toNat := Nat.mul_le_mul_right _ h
    _ = _ := by simp only [Nat.mul_assoc, Nat.mul_comm, Nat.mul_left_comm]

theorem rneAbs_ge_of_ge (F : FltTy) (n d : Nat) (hd : 0 < d) (V : Nat)
    (h : V * 2 ^ (rneAbs F n d).2.toNat * d ≤ n) :
    ((V * 2 ^ (rneAbs F n d).2.toNat : Nat) : Rat) ≤ ((rneAbs F n d).1 : Rat) * pow2 (rneAbs F n d).2 := by
  apply le_mul_pow2
  rw [rneAbs_fst, Nat.mul_right_comm V]
  apply Nat.mul_le_mul_right
  apply roundEvenDiv_ge _ _ _ (Nat.mul_pos hd (Nat.pow_pos (by decide)))
  calc _ = V * 2 ^ (rneAbs F n d).2.toNat * d * 2 ^ (-(rneAbs F n d).2).toNat := by
        simp only [Nat.mul_assoc, Nat.mul_comm, Nat.mul_left_comm]
    _ ≤ _ := Nat.mul_le_mul_right _ h

/-- A rational of magnitude at most `max(F)` does not round to infinity: `max(F) = (2^prec − 1)·2^K` is on the grid of every
quantum `2^k`, `k ≤ K`, that a value below `2^(emax+1)` is rounded with. -/
theorem rne_finite (F : FltTy) (hK : F.prec ≤ F.emax + 1) (he : 1 ≤ F.emax)
    (q : Rat) (hlo : -F.maxFinite ≤ q) (hhi : q ≤ F.maxFinite) : ∃ r : Rat, rne F q = .fin r := by
  unfold rne
  by_cases hq : q = 0
  · exact ⟨0, by simp [hq]⟩
  · rw [if_neg hq]
    have hn : q.num.natAbs ≠ 0 := fun h => hq (Rat.num_eq_zero.1 (by omega))
    have hle : q.num.natAbs ≤ F.maxNat * q.den := by
      unfold maxFinite at hlo hhi
      rw [Rat.le_iff] at hlo hhi
      simp only [Rat.neg_num, Rat.neg_den, Rat.num_natCast, Rat.den_natCast, Int.neg_mul] at hlo hhi
      have h1 : ((F.maxNat * q.den : Nat) : Int) = (F.maxNat : Int) * (q.den : Int) := by simp
      omega
    -- the quantum exponent is at most `K = emax + 1 − prec`
    have hmax : F.maxNat < 2 ^ (F.emax + 1) := by
      unfold maxNat
      rw [show 2 ^ (F.emax + 1) = 2 ^ F.prec * 2 ^ (F.emax + 1 - F.prec) by rw [← Nat.pow_add]; congr 1; omega]
      exact Nat.mul_lt_mul_of_pos_right (Nat.sub_lt (Nat.pow_pos (by decide : 0 < 2)) (by decide : 0 < 1)) (Nat.pow_pos (by decide : 0 < 2))
    have hE := ilog2_lt _ _ (F.emax + 1) hn
      (Nat.lt_of_le_of_lt hle (Nat.mul_lt_mul_of_pos_right hmax q.den_pos))
    have hk := rneAbs_snd F q.num.natAbs q.den
    have hb : (rneAbs F q.num.natAbs q.den).2.toNat ≤ F.emax + 1 - F.prec := by
      unfold emin at hk; omega
    have hV : F.maxNat = (2 ^ F.prec - 1) * 2 ^ (F.emax + 1 - F.prec - (rneAbs F q.num.natAbs q.den).2.toNat) *
        2 ^ (rneAbs F q.num.natAbs q.den).2.toNat := by
      unfold maxNat
      rw [Nat.mul_assoc, ← Nat.pow_add, Nat.sub_add_cancel hb]
    have := rneAbs_le_of_le F _ _ q.den_pos _ (hV ▸ hle)
    rw [← hV] at this
    have hfin : ¬ F.maxFinite < _ := Rat.not_lt.2 this
    rw [if_neg hfin]
    exact ⟨_, rfl⟩

theorem intCast_abs_le_max (F : FltTy) (hmax : 2 ^ F.prec ≤ F.maxNat) (n : Int) (h : n.natAbs ≤ 2 ^ F.prec) :
    -F.maxFinite ≤ (n : Rat) ∧ (n : Rat) ≤ F.maxFinite := by
  unfold maxFinite
  rw [← Rat.intCast_natCast, ← Rat.intCast_neg, Rat.intCast_le_intCast, Rat.intCast_le_intCast]
  omega

/-- `static_cast<F>(n)` is exact for every integer with `|n| ≤ 2^digits`: the quantum is at most 1, or 2 for `2^digits`
itself. -/
theorem ofInt_exact (F : FltTy) (hp : 1 ≤ F.prec) (hmax : 2 ^ F.prec ≤ F.maxNat) (hemin : F.emin ≤ 0)
    (n : Int) (h : n.natAbs ≤ 2 ^ F.prec) : Flt.ofInt F n = .fin (n : Rat) := by
  by_cases hn : n = 0
  · subst hn; simp [Flt.ofInt, rne]
  · have ha : n.natAbs ≠ 0 := by omega
    -- `2^k.toNat` divides `|n|`
    have hk := rneAbs_snd F n.natAbs 1
    rw [ilog2_nat _ ha] at hk
    have hlog := Nat.log2_self_le ha
    have hV : n.natAbs = n.natAbs / 2 ^ (rneAbs F n.natAbs 1).2.toNat * 2 ^ (rneAbs F n.natAbs 1).2.toNat := by
      by_cases hlt : n.natAbs.log2 < F.prec
      · rw [show (rneAbs F n.natAbs 1).2.toNat = 0 by omega]; simp
      · have h2 : 2 ^ F.prec ≤ 2 ^ n.natAbs.log2 := Nat.pow_le_pow_right (by decide) (by omega)
        have hlog' : n.natAbs.log2 < F.prec + 1 := (Nat.log2_lt ha).2 (by rw [Nat.pow_succ]; omega)
        rw [show (rneAbs F n.natAbs 1).2.toNat = 1 by omega, show n.natAbs = 2 ^ F.prec by omega,
          show F.prec = F.prec - 1 + 1 by omega, Nat.pow_succ]
        simp
    have hv : (((rneAbs F n.natAbs 1).1 : Nat) : Rat) * pow2 (rneAbs F n.natAbs 1).2 = (n.natAbs : Rat) := by
      have h1 := rneAbs_le_of_le F n.natAbs 1 (by decide) _ (by rw [← hV, Nat.mul_one]; exact Nat.le_refl _)
      have h2 := rneAbs_ge_of_ge F n.natAbs 1 (by decide) _ (by rw [← hV, Nat.mul_one]; exact Nat.le_refl _)
      rw [← hV] at h1 h2
      exact Rat.le_antisymm h1 h2
    have hq : (n : Rat) ≠ 0 := by simpa using hn
    have hnot : ¬ F.maxFinite < (n.natAbs : Rat) :=
      Rat.not_lt.2 (intCast_abs_le_max F hmax n.natAbs (by rwa [Int.natAbs_natCast])).2
    unfold Flt.ofInt rne
    rw [if_neg hq]
    simp only [Rat.num_intCast, Rat.den_intCast, hv]
    rw [if_neg hnot]
    congr 1
    have hcast : ((n.natAbs : Nat) : Rat) = ((n.natAbs : Int) : Rat) := (Rat.intCast_natCast _).symm
    by_cases hneg : n < 0
    · rw [if_pos (by simpa using (Rat.intCast_lt_intCast (a := n) (b := 0)).2 hneg), hcast,
        show (n.natAbs : Int) = -n by omega, Rat.intCast_neg, Rat.neg_neg]
    · rw [if_neg (fun hc => hneg (Rat.intCast_lt_intCast.1 (by simpa using hc))), hcast,
        show (n.natAbs : Int) = n by omega]

theorem ofInt_exact_conditions : ∀ F ∈ FltTy.all, 1 ≤ F.prec ∧ 2 ^ F.prec ≤ F.maxNat ∧ F.emin ≤ 0 := by
  decide +kernel

theorem rne_finite_conditions : ∀ F ∈ FltTy.all, F.prec ≤ F.emax + 1 ∧ 1 ≤ F.emax := by
  decide

end Au
