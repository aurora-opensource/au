import AuModel.Mag
import AuProofs.Lemmas.Pack
/-! `CommonMagnitude` through exponents: `common2_den` (the base-wise minimum), hence `common2_comm`, `_assoc`,
`_idem` by `Pack.canonical`; the N-ary `commonAll` as greatest lower bound (`commonAll_le`, `commonAll_attained`,
`commonAll_envelope`) in the divisibility order `MagLe`. -/
namespace Au

theorem MagBase.lt_strictTotal : StrictTotal MagBase.lt where
  irrefl a := by cases a <;> simp [MagBase.lt]
  trans a b c h1 h2 := by
    cases a <;> cases b <;> cases c <;> simp [MagBase.lt] at * <;> omega
  total a b h1 h2 := by
    cases a <;> cases b <;> simp [MagBase.lt] at * <;> omega

theorem dimLt_strictTotal : StrictTotal dimLt where
  irrefl a := by simp [dimLt]
  trans a b c h1 h2 := by simp [dimLt] at *; omega
  total a b h1 h2 := by simp [dimLt] at *; omega

namespace Mag
open Pack

theorem negPowers_eq (m : Mag) : negPowers m = m.filter (fun a => decide (a.2 < 0)) := by
  simp only [negPowers, denPart, Pack.inv, Pack.pow, if_neg (show ¬(-1 : Rat) = 0 by decide),
    List.filter_map, List.map_map]
  have hp : ∀ a : MagBase × Rat, decide (0 < a.2 * -1) = decide (a.2 < 0) := fun a => by grind
  have hf : ∀ a : MagBase × Rat, (a.1, a.2 * -1 * -1) = a := fun a => Prod.ext rfl (by grind)
  simp [Function.comp_def, hp, hf]

theorem negPowers_den (m : Mag) (hs : Sorted MagBase.lt m) (x : MagBase) :
    den (negPowers m) x = min (den m x) 0 := by
  rw [negPowers_eq, den_filter MagBase.lt_strictTotal (fun e => decide (e < 0)) m hs]; grind

theorem mem_prependIfNeg {bp : MagBase × Rat} {m : Mag} {y : MagBase × Rat}
    (hy : y ∈ prependIfNeg bp m) : y = bp ∨ y ∈ m := by
  unfold prependIfNeg at hy
  split at hy
  · exact List.mem_cons.1 hy
  · exact Or.inr hy

theorem mem_common2 (a b : Mag) : ∀ y ∈ common2 a b, y ∈ a ∨ y ∈ b := by
  fun_induction common2 a b with
  | case1 => exact fun _ hy => nomatch hy
  | case2 hd t => exact fun y hy => Or.inr (negPowers_eq _ ▸ hy |> List.mem_filter.1).1
  | case3 hd t => exact fun y hy => Or.inl (negPowers_eq _ ▸ hy |> List.mem_filter.1).1
  | case4 b1 e1 t1 b2 e2 t2 _ ih => intro y hy; have := mem_prependIfNeg hy; grind
  | case5 b1 e1 t1 b2 e2 t2 _ _ ih => intro y hy; have := mem_prependIfNeg hy; grind
  | case6 b1 e1 t1 b2 e2 t2 _ _ _ ih => grind
  | case7 b1 e1 t1 b2 e2 t2 _ _ _ ih => grind

theorem prependIfNeg_sorted {bp : MagBase × Rat} {m : Mag} (hs : Sorted MagBase.lt m)
    (hlt : ∀ y ∈ m, MagBase.lt bp.1 y.1 = true) : Sorted MagBase.lt (prependIfNeg bp m) := by
  unfold prependIfNeg; split
  · exact List.pairwise_cons.2 ⟨hlt, hs⟩
  · exact hs

theorem forall_mem_common2 {P : MagBase × Rat → Prop} {a b : Mag} (ha : ∀ y ∈ a, P y) (hb : ∀ y ∈ b, P y) :
    ∀ y ∈ common2 a b, P y :=
  fun y hy => (mem_common2 a b y hy).elim (ha y) (hb y)

theorem common2_sorted (a b : Mag) (ha : Sorted MagBase.lt a) (hb : Sorted MagBase.lt b) :
    Sorted MagBase.lt (common2 a b) := by
  have h := MagBase.lt_strictTotal
  fun_induction common2 a b with
  | case1 => exact List.Pairwise.nil
  | case2 hd t => rw [negPowers_eq]; exact hb.filter _
  | case3 hd t => rw [negPowers_eq]; exact ha.filter _
  | case4 b1 e1 t1 b2 e2 t2 h1 ih =>
    exact prependIfNeg_sorted (ih (sorted_tail ha) hb)
      (forall_mem_common2 (sorted_head ha) (lt_all_of_lt_head h hb h1))
  | case5 b1 e1 t1 b2 e2 t2 _ h2 ih =>
    exact prependIfNeg_sorted (ih (sorted_tail hb) ha)
      (forall_mem_common2 (sorted_head hb) (lt_all_of_lt_head h ha h2))
  | case6 b1 e1 t1 b2 e2 t2 h1 h2 _ ih | case7 b1 e1 t1 b2 e2 t2 h1 h2 _ ih =>
    obtain rfl := h.eq_of_not_lt h1 h2
    exact List.pairwise_cons.2
      ⟨forall_mem_common2 (P := (MagBase.lt b1 ·.1 = true)) (sorted_head ha) (sorted_head hb), ih (sorted_tail ha) (sorted_tail hb)⟩

theorem common2_valid (a b : Mag) (ha : Valid MagBase.lt a) (hb : Valid MagBase.lt b) :
    Valid MagBase.lt (common2 a b) :=
  ⟨common2_sorted a b ha.1 hb.1, forall_mem_common2 ha.2 hb.2⟩

theorem prependIfNeg_den (b : MagBase) (e : Rat) (m : Mag) (x : MagBase) :
    den (prependIfNeg (b, e) m) x = if b = x ∧ e < 0 then e else den m x := by
  unfold prependIfNeg
  by_cases he : e < 0
  · simp only [he, if_true, den_cons, and_true]
  · simp only [he, if_false, and_false]

/-- **`CommonMagnitude` takes the base-wise minimum exponent (a missing base counts as 0).** -/
theorem common2_den (a b : Mag) (ha : Sorted MagBase.lt a) (hb : Sorted MagBase.lt b) (x : MagBase) :
    den (common2 a b) x = min (den a x) (den b x) := by
  have h := MagBase.lt_strictTotal
  fun_induction common2 a b with
  | case1 => exact Std.min_self.symm
  | case2 hd t => rw [negPowers_den _ hb, den_nil]; grind
  | case3 hd t => rw [negPowers_den _ ha, den_nil]
  | case4 b1 e1 t1 b2 e2 t2 h1 ih =>
    -- at `x = b1` the other side has exponent 0, and `prependIfNeg` yields `min e1 0`
    rw [prependIfNeg_den, ih (sorted_tail ha) hb, den_cons b1 e1 t1]
    by_cases hx : b1 = x
    · subst hx
      rw [den_eq_zero_of_lt_all h t1 b1 (sorted_head ha), den_eq_zero_of_lt_all h _ b1 (lt_all_of_lt_head h hb h1)]
      grind
    · simp [hx]
  | case5 b1 e1 t1 b2 e2 t2 h1 h2 ih =>
    rw [prependIfNeg_den, ih (sorted_tail hb) ha, den_cons b2 e2 t2]
    by_cases hx : b2 = x
    · subst hx
      rw [den_eq_zero_of_lt_all h t2 b2 (sorted_head hb), den_eq_zero_of_lt_all h _ b2 (lt_all_of_lt_head h ha h2)]
      grind
    · rw [if_neg (fun h => hx h.1), if_neg hx]; exact Std.Commutative.comm (op := min) _ _
  | case6 b1 e1 t1 b2 e2 t2 h1 h2 h3 ih | case7 b1 e1 t1 b2 e2 t2 h1 h2 h3 ih =>
    obtain rfl := h.eq_of_not_lt h1 h2
    rw [den_cons, den_cons b1 e1, den_cons b1 e2, ih (sorted_tail ha) (sorted_tail hb)]
    grind

theorem common2_comm (a b : Mag) (ha : Valid MagBase.lt a) (hb : Valid MagBase.lt b) :
    common2 a b = common2 b a := by
  apply canonical MagBase.lt_strictTotal _ _ (common2_valid a b ha hb) (common2_valid b a hb ha)
  intro x
  rw [common2_den a b ha.1 hb.1, common2_den b a hb.1 ha.1]; grind

theorem common2_assoc (a b c : Mag) (ha : Valid MagBase.lt a) (hb : Valid MagBase.lt b)
    (hc : Valid MagBase.lt c) : common2 (common2 a b) c = common2 a (common2 b c) := by
  have hab := common2_valid a b ha hb
  have hbc := common2_valid b c hb hc
  apply canonical MagBase.lt_strictTotal _ _ (common2_valid _ c hab hc) (common2_valid a _ ha hbc)
  intro x
  rw [common2_den _ c hab.1 hc.1, common2_den a b ha.1 hb.1, common2_den a _ ha.1 hbc.1,
    common2_den b c hb.1 hc.1]; grind

theorem common2_idem (a : Mag) (ha : Valid MagBase.lt a) : common2 a a = a := by
  apply canonical MagBase.lt_strictTotal _ _ (common2_valid a a ha ha) ha
  intro x; rw [common2_den a a ha.1 ha.1]; grind

theorem commonAll_valid : (ms : List Mag) → (∀ m ∈ ms, Valid MagBase.lt m) → Valid MagBase.lt (commonAll ms)
  | [], _ => valid_nil
  | [m], h => h m (List.mem_cons_self ..)
  | _ :: m2 :: rest, h =>
    have ⟨hm, hr⟩ := List.forall_mem_cons.1 h
    common2_valid _ _ hm (commonAll_valid (m2 :: rest) hr)

theorem commonAll_pair (a b : Mag) : commonAll [a, b] = common2 a b := rfl

theorem mem_commonAll : ∀ (ms : List Mag), ∀ y ∈ commonAll ms, ∃ m ∈ ms, y ∈ m
  | [], y, hy => nomatch hy
  | [a], y, hy => ⟨a, List.mem_cons_self .., hy⟩
  | a :: b :: rest, y, hy => by
    rcases mem_common2 a _ y hy with h | h
    · exact ⟨a, List.mem_cons_self .., h⟩
    · obtain ⟨m, hm, hym⟩ := mem_commonAll (b :: rest) y h
      exact ⟨m, List.mem_cons_of_mem _ hm, hym⟩

theorem forall_mem_commonAll {P : MagBase × Rat → Prop} {ms : List Mag} (h : ∀ m ∈ ms, ∀ y ∈ m, P y) :
    ∀ y ∈ commonAll ms, P y :=
  fun y hy => let ⟨m, hm, hym⟩ := mem_commonAll ms y hy; h m hm y hym
end Mag
open Pack

/-- `m` divides `k`. -/
def MagLe (m k : Mag) : Prop := ∀ x, den m x ≤ den k x

theorem MagLe.iff_sub_nonneg {c m : Mag} : MagLe c m ↔ ∀ x, 0 ≤ den m x - den c x :=
  forall_congr' fun x => Rat.le_iff_sub_nonneg (den c x) (den m x)

theorem MagLe.refl (m : Mag) : MagLe m m := fun _ => Rat.le_refl
theorem MagLe.trans {a b c : Mag} (h1 : MagLe a b) (h2 : MagLe b c) : MagLe a c :=
  fun x => Rat.le_trans (h1 x) (h2 x)

namespace Mag

theorem commonAll_den_cons (a b : Mag) (rest : List Mag) (hv : ∀ m ∈ a :: b :: rest, Valid MagBase.lt m)
    (x : MagBase) :
    den (commonAll (a :: b :: rest)) x = min (den a x) (den (commonAll (b :: rest)) x) :=
  common2_den a _ (hv a (List.mem_cons_self ..)).1
    (commonAll_valid _ fun m hm => hv m (List.mem_cons_of_mem _ hm)).1 x

/-- `CommonMagnitude<Ms...>` is a lower bound of every input, base by base … -/
theorem commonAll_le : (ms : List Mag) → (∀ m ∈ ms, Valid MagBase.lt m) → ∀ m ∈ ms, MagLe (commonAll ms) m
  | [], _, _, hm => nomatch hm
  | [a], _, m, hm => by rw [List.mem_singleton.1 hm]; exact MagLe.refl a
  | a :: b :: rest, hv, m, hm => fun x => by
    rw [commonAll_den_cons a b rest hv]
    rcases List.mem_cons.1 hm with rfl | hm
    · exact Std.min_le_left
    · exact Rat.le_trans Std.min_le_right
        (commonAll_le (b :: rest) (fun m hm => hv m (List.mem_cons_of_mem _ hm)) m hm x)

/-- … and is attained by some input at every base (so it is the *greatest* lower bound). -/
theorem commonAll_attained : (ms : List Mag) → (∀ m ∈ ms, Valid MagBase.lt m) → ms ≠ [] → ∀ x,
    ∃ m ∈ ms, den (commonAll ms) x = den m x
  | [], _, h, _ => absurd rfl h
  | [a], _, _, x => ⟨a, List.mem_cons_self .., rfl⟩
  | a :: b :: rest, hv, _, x => by
    rw [commonAll_den_cons a b rest hv]
    rcases Std.min_eq_or (a := den a x) (b := den (commonAll (b :: rest)) x) with h | h
    · exact ⟨a, List.mem_cons_self .., h⟩
    · obtain ⟨m, hm, he⟩ := commonAll_attained (b :: rest)
        (fun m hm => hv m (List.mem_cons_of_mem _ hm)) (List.cons_ne_nil _ _) x
      exact ⟨m, List.mem_cons_of_mem _ hm, h.trans he⟩

theorem commonAll_mono {α : Type} (f : α → Mag) (as bs : List α)
    (ha : ∀ a ∈ as, Valid MagBase.lt (f a)) (hb : ∀ b ∈ bs, Valid MagBase.lt (f b)) (hne : bs ≠ [])
    (h : ∀ b ∈ bs, ∃ a ∈ as, MagLe (f a) (f b)) : MagLe (commonAll (as.map f)) (commonAll (bs.map f)) := by
  intro x
  obtain ⟨m, hm, he⟩ := commonAll_attained (bs.map f) (List.forall_mem_map.2 hb) (mt List.map_eq_nil_iff.1 hne) x
  obtain ⟨b, hbM, rfl⟩ := List.mem_map.1 hm
  obtain ⟨a, haM, hle⟩ := h b hbM
  rw [he]
  exact Rat.le_trans (commonAll_le (as.map f) (List.forall_mem_map.2 ha) (f a) (List.mem_map_of_mem haM) x) (hle x)

/-- The common magnitude of a family `f a` depends only on its *lower envelope* (`f := id` for plain
lists). -/
theorem commonAll_envelope {α : Type} (f : α → Mag) (as bs : List α)
    (ha : ∀ a ∈ as, Valid MagBase.lt (f a)) (hb : ∀ b ∈ bs, Valid MagBase.lt (f b))
    (h1 : ∀ b ∈ bs, ∃ a ∈ as, MagLe (f a) (f b)) (h2 : ∀ a ∈ as, ∃ b ∈ bs, MagLe (f b) (f a)) :
    commonAll (as.map f) = commonAll (bs.map f) := by
  -- the two lists are empty together
  cases as with
  | nil =>
    cases bs with
    | nil => rfl
    | cons b _ => obtain ⟨_, h, _⟩ := h1 b (List.mem_cons_self ..); cases h
  | cons a as' =>
    obtain ⟨b, hbM, _⟩ := h2 a (List.mem_cons_self ..)
    apply canonical MagBase.lt_strictTotal _ _ (commonAll_valid _ (List.forall_mem_map.2 ha))
      (commonAll_valid _ (List.forall_mem_map.2 hb))
    intro x
    exact Rat.le_antisymm (commonAll_mono f _ bs ha hb (List.ne_nil_of_mem hbM) h1 x)
      (commonAll_mono f bs _ hb ha (List.cons_ne_nil _ _) h2 x)

end Mag
end Au
