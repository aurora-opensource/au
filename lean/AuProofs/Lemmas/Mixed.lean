/-
  AuProofs.Lemmas.Mixed — evaluation of `AuModel.Mixed` (core Lean only).

  An evaluation is *clean* when it returns `⟨.ok z, false, false⟩`: a value, no unsigned wrap-around, no
  narrowing.  For the steps, the conversions of one quantity and `usingCommon`, `add`, `sub` a lemma `…_clean_iff`
  says when the evaluation is clean and what it then returns: from right to left it evaluates on representable
  inputs, from left to right it recovers the exact value from a clean result.  Its equations have the output on
  the left (`z = v * k`): `obtain ⟨…, rfl⟩` eliminates the older variable, the caller's `v`, and the name bound in
  the pattern is the one that survives.  All binary operators are exact on operands that scale cleanly
  (`usingCommon_ok`, `usingRepCast_ok`); their value depends on the operand pair only (`…_val`).
-/
import AuModel.Mixed
import AuProofs.Lemmas.ApplyMag
namespace Au
open IntTy Mixed

namespace Mixed

theorem addIn_clean_iff (p : IntTy) (hp : p ∈ IntTy.all) (a b z : Int) :
    addIn p a b = ⟨.ok z, false⟩ ↔ p.inRange (a + b) ∧ z = a + b := Step.checked_clean_iff p hp _ z _

theorem subIn_clean_iff (p : IntTy) (hp : p ∈ IntTy.all) (a b z : Int) :
    subIn p a b = ⟨.ok z, false⟩ ↔ p.inRange (a - b) ∧ z = a - b := Step.checked_clean_iff p hp _ z _

theorem staticCast_clean_iff (t : IntTy) (ht : t ∈ IntTy.all) (v z : Int) :
    staticCast t v = ⟨.ok z, false, false⟩ ↔ t.inRange v ∧ z = v := by
  -- `staticCast t v` is `finish t ⟨.ok v, false⟩`
  refine (finish_clean_iff t ht ⟨.ok v, false⟩ z).trans ?_
  constructor
  · rintro ⟨h, hz⟩; cases h; exact ⟨hz, rfl⟩
  · rintro ⟨h, rfl⟩; exact ⟨rfl, h⟩

theorem staticCast_ok (t : IntTy) (ht : t ∈ IntTy.all) (v : Int) (h : t.inRange v) :
    staticCast t v = ⟨.ok v, false, false⟩ := (staticCast_clean_iff t ht v v).2 ⟨h, rfl⟩

theorem andThen_ok (v : Int) (f : Int → ApplyResult) :
    andThen ⟨.ok v, false, false⟩ f = f v := by
  unfold andThen; simp

theorem andThen_clean_iff (a : ApplyResult) (f : Int → ApplyResult) (z : Int) :
    andThen a f = ⟨.ok z, false, false⟩ ↔ ∃ v, a = ⟨.ok v, false, false⟩ ∧ f v = ⟨.ok z, false, false⟩ := by
  obtain ⟨v | w, aw, an⟩ := a
  · rcases hf : f v with ⟨fv, fw, fn⟩
    simp only [andThen, hf, ApplyResult.mk.injEq, Bool.or_eq_false_iff, Eval.ok.injEq]
    constructor
    · rintro ⟨rfl, ⟨rfl, rfl⟩, rfl, rfl⟩; exact ⟨v, ⟨rfl, rfl, rfl⟩, hf⟩
    · rintro ⟨_, ⟨rfl, rfl, rfl⟩, h⟩; rw [hf] at h; injection h with h1 h2 h3; exact ⟨h1, ⟨rfl, h2⟩, rfl, h3⟩
  · simp [andThen]

/-- `static_cast<n>(apply_magnitude(static_cast<c>(v), N/D))`, the body of every `as` / `in` that names a rep. -/
theorem castApplyCast_clean_iff (c n : IntTy) (hc : c ∈ IntTy.all) (hn : n ∈ IntTy.all) (N D : Nat) (hD : 0 < D)
    (v z : Int) :
    (andThen (staticCast c v) fun x => andThen (applyMag c N D x) fun y => staticCast n y) = ⟨.ok z, false, false⟩ ↔
      c.inRange v ∧ c.promote.inRange (v * N) ∧ c.inRange (Int.tdiv (v * N) D) ∧ n.inRange (Int.tdiv (v * N) D) ∧
      z = Int.tdiv (v * N) D := by
  simp only [andThen_clean_iff, staticCast_clean_iff _ hc, staticCast_clean_iff _ hn]
  constructor
  · rintro ⟨x, ⟨hx, rfl⟩, w, hw, h4, rfl⟩
    obtain ⟨h2, h3, rfl⟩ := (applyMag_clean_iff _ hc N D hD _ _ fun _ => promote_inRange _ hc _ hx).1 hw
    exact ⟨hx, h2, h3, h4, rfl⟩
  · rintro ⟨h1, h2, h3, h4, rfl⟩
    exact ⟨v, ⟨h1, rfl⟩, _, (applyMag_clean_iff _ hc N D hD v _ fun _ => promote_inRange _ hc _ h1).2 ⟨h2, h3, rfl⟩, h4, rfl⟩

theorem asRep_clean_iff (r n : IntTy) (hc : IntTy.common r n ∈ IntTy.all) (hn : n ∈ IntTy.all) (k : Nat) (v z : Int) :
    asRep r n k v = ⟨.ok z, false, false⟩ ↔
      (IntTy.common r n).inRange v ∧ (IntTy.common r n).inRange (v * k) ∧ n.inRange (v * k) ∧ z = v * k := by
  unfold asRep
  rw [castApplyCast_clean_iff _ n hc hn k 1 Nat.one_pos]
  simp only [Int.natCast_one, Int.tdiv_one]
  exact ⟨fun ⟨a, _, b, c, d⟩ => ⟨a, b, c, d⟩, fun ⟨a, b, c, d⟩ => ⟨a, promote_inRange _ hc _ b, b, c, d⟩⟩

theorem asRep_ok (r n : IntTy) (hc : IntTy.common r n ∈ IntTy.all) (hn : n ∈ IntTy.all) (k : Nat) (v : Int)
    (h1 : (IntTy.common r n).inRange v) (h2 : (IntTy.common r n).inRange (v * k)) (h3 : n.inRange (v * k)) :
    asRep r n k v = ⟨.ok (v * k), false, false⟩ := (asRep_clean_iff r n hc hn k v _).2 ⟨h1, h2, h3, rfl⟩

theorem repCast_clean_iff (r n : IntTy) (hc : IntTy.common r n ∈ IntTy.all) (hn : n ∈ IntTy.all) (v z : Int) :
    repCast r n v = ⟨.ok z, false, false⟩ ↔ (IntTy.common r n).inRange v ∧ n.inRange v ∧ z = v := by
  simp [repCast, asRep_clean_iff r n hc hn]

theorem repCast_ok (r n : IntTy) (hc : IntTy.common r n ∈ IntTy.all) (hn : n ∈ IntTy.all) (v : Int)
    (h1 : (IntTy.common r n).inRange v) (h2 : n.inRange v) : repCast r n v = ⟨.ok v, false, false⟩ :=
  (repCast_clean_iff r n hc hn v v).2 ⟨h1, h2, rfl⟩

theorem castToCommon_clean_iff (r c : IntTy) (h1 : IntTy.common r c ∈ IntTy.all) (h2 : c ∈ IntTy.all)
    (k : Nat) (v z : Int) :
    castToCommon r c k v = ⟨.ok z, false, false⟩ ↔
      (IntTy.common r c).inRange v ∧ c.inRange v ∧ c.inRange (v * k) ∧ z = v * k := by
  have h3 := common_mem c c h2 h2
  simp only [castToCommon, andThen_clean_iff, repCast_clean_iff r c h1 h2, asRep_clean_iff c c h3 h2, common_self]
  constructor
  · rintro ⟨x, ⟨a, b, rfl⟩, _, d, _, rfl⟩; exact ⟨a, b, d, rfl⟩
  · rintro ⟨a, b, d, rfl⟩; exact ⟨v, ⟨a, b, rfl⟩, b, d, d, rfl⟩

theorem castToCommon_ok (r c : IntTy) (hc : c ∈ IntTy.all) (e : IntTy.common r c = c) (k : Nat) (v : Int)
    (hv : c.inRange v) (hf : c.inRange (v * k)) : castToCommon r c k v = ⟨.ok (v * k), false, false⟩ :=
  (castToCommon_clean_iff r c (e.symm ▸ hc) hc k v _).2 ⟨e.symm ▸ hv, hv, hf, rfl⟩

/-- `q.in(unit)` in the own rep (no arithmetic at all when the units are equivalent: at `k = 1` a clean result gives
no range fact). -/
theorem inUnit_clean_iff (r : IntTy) (hr : r ∈ IntTy.all) (k : Nat) (v z : Int) :
    inUnit r k v = ⟨.ok z, false, false⟩ ↔ (k = 1 ∨ r.inRange v ∧ r.inRange (v * k)) ∧ z = v * k := by
  have h3 := common_mem r r hr hr
  unfold inUnit
  by_cases hk : k = 1
  · simp [hk, eq_comm]
  · rw [if_neg hk]
    simp only [asRep_clean_iff r r h3 hr, common_self, hk, false_or]
    constructor
    · rintro ⟨a, b, _, rfl⟩; exact ⟨⟨a, b⟩, rfl⟩
    · rintro ⟨⟨a, b⟩, rfl⟩; exact ⟨a, b, b, rfl⟩

theorem usingCommon_clean_iff {α : Type} (r1 r2 : IntTy) (k1 k2 : Nat) (v1 v2 : Int)
    (f : IntTy → Int → Int → Res α) (z : α) :
    usingCommon r1 r2 k1 k2 v1 v2 f = ⟨.ok z, false, false⟩ ↔
      ∃ x y, castToCommon r1 (IntTy.common r1 r2) k1 v1 = ⟨.ok x, false, false⟩ ∧
        castToCommon r2 (IntTy.common r1 r2) k2 v2 = ⟨.ok y, false, false⟩ ∧
        f (IntTy.common r1 r2) x y = ⟨.ok z, false, false⟩ := by
  unfold usingCommon
  dsimp only
  obtain ⟨a, aw, an⟩ := castToCommon r1 (IntTy.common r1 r2) k1 v1
  obtain ⟨b, bw, bn⟩ := castToCommon r2 (IntTy.common r1 r2) k2 v2
  cases a with
  | ub w => simp
  | ok x =>
    cases b with
    | ub w => simp
    | ok y =>
      rcases hf : f (IntTy.common r1 r2) x y with ⟨fv, fw, fn⟩
      simp only [hf, Res.mk.injEq, ApplyResult.mk.injEq, Eval.ok.injEq, Bool.or_eq_false_iff]
      constructor
      · rintro ⟨rfl, ⟨⟨rfl, rfl⟩, rfl⟩, ⟨rfl, rfl⟩, rfl⟩; exact ⟨x, y, ⟨rfl, rfl, rfl⟩, ⟨rfl, rfl, rfl⟩, hf⟩
      · rintro ⟨_, _, ⟨rfl, rfl, rfl⟩, ⟨rfl, rfl, rfl⟩, h⟩
        rw [hf] at h; injection h with h1 h2 h3
        exact ⟨h1, ⟨⟨rfl, rfl⟩, h2⟩, ⟨rfl, rfl⟩, h3⟩

/-- `using_common_type`: inside the scope both operands arrive as the exact scaled integers. -/
theorem usingCommon_ok {α : Type} (r1 r2 : IntTy) (h1 : r1 ∈ IntTy.all) (h2 : r2 ∈ IntTy.all)
    (hs : r1.signed = r2.signed) (k1 k2 : Nat) (v1 v2 : Int) (hv1 : r1.inRange v1) (hv2 : r2.inRange v2)
    (hf : FitsCommon r1 r2 k1 k2 v1 v2) (f : IntTy → Int → Int → Res α) :
    usingCommon r1 r2 k1 k2 v1 v2 f =
      ⟨(f (IntTy.common r1 r2) (v1 * k1) (v2 * k2)).val, (f (IntTy.common r1 r2) (v1 * k1) (v2 * k2)).wrapped,
       (f (IntTy.common r1 r2) (v1 * k1) (v2 * k2)).narrowed⟩ := by
  have hc := common_mem r1 r2 h1 h2
  obtain ⟨e1, e2⟩ := common_absorb r1 h1 r2 h2
  unfold usingCommon
  dsimp only
  rw [castToCommon_ok r1 _ hc e1 k1 v1 (inRange_common_left r1 r2 h1 h2 hs hv1) hf.1,
    castToCommon_ok r2 _ hc e2 k2 v2 (inRange_common_right r1 r2 h1 h2 hs hv2) hf.2]
  simp

theorem stepRes_clean_iff (s : Step) (z : Int) :
    (⟨s.val, s.wrapped, false⟩ : Res Int) = ⟨.ok z, false, false⟩ ↔ s = ⟨.ok z, false⟩ := by
  cases s; simp

theorem sumRep_mem (r1 r2 : IntTy) (h1 : r1 ∈ IntTy.all) (h2 : r2 ∈ IntTy.all) : sumRep r1 r2 ∈ IntTy.all :=
  promote_mem _ (common_mem r1 r2 h1 h2)

theorem add_clean_iff (r1 r2 : IntTy) (h1 : r1 ∈ IntTy.all) (h2 : r2 ∈ IntTy.all) (k1 k2 : Nat) (v1 v2 s : Int) :
    add r1 r2 k1 k2 v1 v2 = ⟨.ok s, false, false⟩ ↔
      ∃ x y, castToCommon r1 (IntTy.common r1 r2) k1 v1 = ⟨.ok x, false, false⟩ ∧
        castToCommon r2 (IntTy.common r1 r2) k2 v2 = ⟨.ok y, false, false⟩ ∧
        (sumRep r1 r2).inRange (x + y) ∧ s = x + y := by
  have hp := sumRep_mem r1 r2 h1 h2
  unfold sumRep at hp ⊢
  simp only [add, usingCommon_clean_iff, stepRes_clean_iff, addIn_clean_iff _ hp]

theorem sub_clean_iff (r1 r2 : IntTy) (h1 : r1 ∈ IntTy.all) (h2 : r2 ∈ IntTy.all) (k1 k2 : Nat) (v1 v2 s : Int) :
    sub r1 r2 k1 k2 v1 v2 = ⟨.ok s, false, false⟩ ↔
      ∃ x y, castToCommon r1 (IntTy.common r1 r2) k1 v1 = ⟨.ok x, false, false⟩ ∧
        castToCommon r2 (IntTy.common r1 r2) k2 v2 = ⟨.ok y, false, false⟩ ∧
        (sumRep r1 r2).inRange (x - y) ∧ s = x - y := by
  have hp := sumRep_mem r1 r2 h1 h2
  unfold sumRep at hp ⊢
  simp only [sub, usingCommon_clean_iff, stepRes_clean_iff, subIn_clean_iff _ hp]

theorem cmp_ok (op : CmpOp) (r1 r2 : IntTy) (h1 : r1 ∈ IntTy.all) (h2 : r2 ∈ IntTy.all) (hs : r1.signed = r2.signed)
    (k1 k2 : Nat) (v1 v2 : Int) (hv1 : r1.inRange v1) (hv2 : r2.inRange v2)
    (hf : FitsCommon r1 r2 k1 k2 v1 v2) :
    cmp op r1 r2 k1 k2 v1 v2 = ⟨.ok (op.eval (v1 * k1) (v2 * k2)), false, false⟩ := by
  unfold cmp
  rw [usingCommon_ok r1 r2 h1 h2 hs _ _ v1 v2 hv1 hv2 hf]

theorem add_ok (r1 r2 : IntTy) (h1 : r1 ∈ IntTy.all) (h2 : r2 ∈ IntTy.all) (hs : r1.signed = r2.signed)
    (k1 k2 : Nat) (v1 v2 : Int) (hv1 : r1.inRange v1) (hv2 : r2.inRange v2)
    (hf : FitsCommon r1 r2 k1 k2 v1 v2) (hd : SumFits r1 r2 k1 k2 v1 v2) :
    add r1 r2 k1 k2 v1 v2 = ⟨.ok (v1 * k1 + v2 * k2), false, false⟩ := by
  have hp := promote_mem _ (common_mem r1 r2 h1 h2)
  unfold add
  rw [usingCommon_ok r1 r2 h1 h2 hs _ _ v1 v2 hv1 hv2 hf, (addIn_clean_iff _ hp _ _ _).2 ⟨hd, rfl⟩]

theorem sub_ok (r1 r2 : IntTy) (h1 : r1 ∈ IntTy.all) (h2 : r2 ∈ IntTy.all) (hs : r1.signed = r2.signed)
    (k1 k2 : Nat) (v1 v2 : Int) (hv1 : r1.inRange v1) (hv2 : r2.inRange v2)
    (hf : FitsCommon r1 r2 k1 k2 v1 v2) (hd : DiffFits r1 r2 k1 k2 v1 v2) :
    sub r1 r2 k1 k2 v1 v2 = ⟨.ok (v1 * k1 - v2 * k2), false, false⟩ := by
  have hp := promote_mem _ (common_mem r1 r2 h1 h2)
  unfold sub
  rw [usingCommon_ok r1 r2 h1 h2 hs _ _ v1 v2 hv1 hv2 hf, (subIn_clean_iff _ hp _ _ _).2 ⟨hd, rfl⟩]

/-- `%` / `<=>`: inside the scope both operands of the built-in operator are the exact scaled integers. -/
theorem usingRepCast_ok {α : Type} (r1 r2 : IntTy) (h1 : r1 ∈ IntTy.all) (h2 : r2 ∈ IntTy.all)
    (hs : r1.signed = r2.signed) (k1 k2 : Nat) (v1 v2 : Int) (hv1 : r1.inRange v1) (hv2 : r2.inRange v2)
    (hf : FitsCommon r1 r2 k1 k2 v1 v2) (f : IntTy → Int → Int → Res α) :
    usingRepCast r1 r2 k1 k2 v1 v2 f =
      ⟨(f (modRep r1 r2) (v1 * k1) (v2 * k2)).val, (f (modRep r1 r2) (v1 * k1) (v2 * k2)).wrapped,
       (f (modRep r1 r2) (v1 * k1) (v2 * k2)).narrowed⟩ := by
  have hc := common_mem r1 r2 h1 h2
  obtain ⟨e1, e2⟩ := common_absorb r1 h1 r2 h2
  have hc1 := inRange_common_left r1 r2 h1 h2 hs hv1
  have hc2 := inRange_common_right r1 r2 h1 h2 hs hv2
  have hp := promote_mem _ hc
  unfold usingRepCast modRep
  simp only [uac_self]
  rw [repCast_ok r1 _ (e1.symm ▸ hc) hc v1 (e1.symm ▸ hc1) hc1, repCast_ok r2 _ (e2.symm ▸ hc) hc v2 (e2.symm ▸ hc2) hc2,
    andThen_ok, andThen_ok,
    (inUnit_clean_iff _ hc k1 v1 _).2 ⟨Or.inr ⟨hc1, hf.1⟩, rfl⟩, (inUnit_clean_iff _ hc k2 v2 _).2 ⟨Or.inr ⟨hc2, hf.2⟩, rfl⟩]
  simp [wrap_of_inRange _ hp _ (promote_inRange _ hc _ hf.1), wrap_of_inRange _ hp _ (promote_inRange _ hc _ hf.2)]

theorem fitsCommon_of_fitsOwn (r1 r2 : IntTy) (h1 : r1 ∈ IntTy.all) (h2 : r2 ∈ IntTy.all)
    (hs : r1.signed = r2.signed) (k1 k2 : Nat) (v1 v2 : Int) (hf : FitsOwn r1 r2 k1 k2 v1 v2) :
    FitsCommon r1 r2 k1 k2 v1 v2 := by
  exact ⟨inRange_common_left r1 r2 h1 h2 hs hf.1, inRange_common_right r1 r2 h1 h2 hs hf.2⟩

/-! ### The value of an operation depends on the operand pair only (`C08Cmd.cellCodes` evaluates the
pair once per cell and reads all ten operations off it) -/

theorem usingCommon_val {α : Type} (r1 r2 : IntTy) (k1 k2 : Nat) (v1 v2 : Int) (f : IntTy → Int → Int → Res α) :
    (usingCommon r1 r2 k1 k2 v1 v2 f).val =
      match (commonPair r1 r2 k1 k2 v1 v2).val with
      | .ok (x, y) => (f (IntTy.common r1 r2) x y).val
      | .ub w => .ub w := by
  unfold commonPair usingCommon
  dsimp only
  split <;> simp_all

theorem cmp_val (op : CmpOp) (r1 r2 : IntTy) (k1 k2 : Nat) (v1 v2 : Int) :
    (cmp op r1 r2 k1 k2 v1 v2).val =
      match (commonPair r1 r2 k1 k2 v1 v2).val with
      | .ok (x, y) => .ok (op.eval x y)
      | .ub w => .ub w := usingCommon_val ..

theorem add_val (r1 r2 : IntTy) (k1 k2 : Nat) (v1 v2 : Int) :
    (add r1 r2 k1 k2 v1 v2).val =
      match (commonPair r1 r2 k1 k2 v1 v2).val with
      | .ok (x, y) => (addIn (IntTy.common r1 r2).promote x y).val
      | .ub w => .ub w := usingCommon_val ..

theorem sub_val (r1 r2 : IntTy) (k1 k2 : Nat) (v1 v2 : Int) :
    (sub r1 r2 k1 k2 v1 v2).val =
      match (commonPair r1 r2 k1 k2 v1 v2).val with
      | .ok (x, y) => (subIn (IntTy.common r1 r2).promote x y).val
      | .ub w => .ub w := usingCommon_val ..

theorem usingRepCast_val {α : Type} (r1 r2 : IntTy) (k1 k2 : Nat) (v1 v2 : Int) (f : IntTy → Int → Int → Res α) :
    (usingRepCast r1 r2 k1 k2 v1 v2 f).val =
      match (repCastPair r1 r2 k1 k2 v1 v2).val with
      | .ok (x, y) => (f (modRep r1 r2) x y).val
      | .ub w => .ub w := by
  unfold repCastPair usingRepCast modRep
  dsimp only
  split <;> simp_all

theorem mod_val (r1 r2 : IntTy) (k1 k2 : Nat) (v1 v2 : Int) :
    (mod r1 r2 k1 k2 v1 v2).val =
      match (repCastPair r1 r2 k1 k2 v1 v2).val with
      | .ok (x, y) => (modIn (modRep r1 r2) x y).val
      | .ub w => .ub w := usingRepCast_val ..

theorem spaceship_val (r1 r2 : IntTy) (k1 k2 : Nat) (v1 v2 : Int) :
    (spaceship r1 r2 k1 k2 v1 v2).val =
      match (repCastPair r1 r2 k1 k2 v1 v2).val with
      | .ok (x, y) => .ok (compare x y)
      | .ub w => .ub w := usingRepCast_val ..

theorem eval_eq_ofOrdering (op : CmpOp) (x y : Int) : op.eval x y = op.ofOrdering (compare x y) := by
  rcases Int.lt_trichotomy x y with h | h | h
  · rw [Int.compare_eq_lt.2 h]; cases op <;> simp [CmpOp.eval, CmpOp.ofOrdering, bne] <;> omega
  · rw [Int.compare_eq_eq.2 h]; cases op <;> simp [CmpOp.eval, CmpOp.ofOrdering, bne] <;> omega
  · rw [Int.compare_eq_gt.2 h]; cases op <;> simp [CmpOp.eval, CmpOp.ofOrdering, bne] <;> omega

theorem ofOrdering_eq_not_ne (o : Ordering) : CmpOp.ofOrdering .eq o = !CmpOp.ofOrdering .ne o := by cases o <;> rfl
theorem ofOrdering_lt_not_ge (o : Ordering) : CmpOp.ofOrdering .lt o = !CmpOp.ofOrdering .ge o := by cases o <;> rfl
theorem ofOrdering_le_not_gt (o : Ordering) : CmpOp.ofOrdering .le o = !CmpOp.ofOrdering .gt o := by cases o <;> rfl

end Mixed
end Au
