/-
  AuProofs.Lemmas.CommonRat — the rational-gcd common unit (`AuModel.CommonRat`): both scales are
  positive-integer multiples of the common scale, the multipliers are coprime, the construction is symmetric in its ratios (`ratio_symm`),
  and among the units that divide both (`URat.Divides`) it is the greatest.  Core Lean only (`Rat` is in core).
-/
import AuModel.CommonRat
namespace Au

theorem rat_natCast_ne_zero {n : Nat} (h : 0 < n) : (n : Rat) ≠ 0 :=
  Rat.ne_of_gt (Rat.natCast_pos.mpr h)

theorem rat_scale_lt (a b : Int) (g : Rat) (hg : 0 < g) : (a : Rat) * g < (b : Rat) * g ↔ a < b := by
  rw [Rat.mul_lt_mul_right hg]; exact Rat.intCast_lt_intCast

theorem rat_scale_le (a b : Int) (g : Rat) (hg : 0 < g) : (a : Rat) * g ≤ (b : Rat) * g ↔ a ≤ b := by
  rw [← Rat.not_lt, rat_scale_lt b a g hg]; omega

theorem rat_scale_eq (a b : Int) (g : Rat) (hg : 0 < g) : (a : Rat) * g = (b : Rat) * g ↔ a = b := by
  constructor
  · intro h
    have h1 : a ≤ b := (rat_scale_le a b g hg).1 (by rw [h]; exact Rat.le_refl)
    have h2 : b ≤ a := (rat_scale_le b a g hg).1 (by rw [h]; exact Rat.le_refl)
    omega
  · intro h; rw [h]

theorem rat_scale_nonneg (a : Int) (g : Rat) (hg : 0 < g) : 0 ≤ (a : Rat) * g ↔ 0 ≤ a := by
  have := rat_scale_le 0 a g hg
  rwa [Rat.intCast_zero, Rat.zero_mul] at this

theorem rat_scale_nonpos (a : Int) (g : Rat) (hg : 0 < g) : (a : Rat) * g ≤ 0 ↔ a ≤ 0 := by
  have := rat_scale_le a 0 g hg
  rwa [Rat.intCast_zero, Rat.zero_mul] at this

namespace URat

def scale (u : URat) : Rat := (u.num : Rat) / (u.den : Rat)

theorem crossGcd_pos (u1 u2 : URat) (h1 : u1.Pos) (h2 : u2.Pos) : 0 < crossGcd u1 u2 := by
  unfold crossGcd
  exact Nat.gcd_pos_of_pos_left _ (Nat.mul_pos h1.1 h2.2)

theorem ratioL_mul (u1 u2 : URat) : ratioL u1 u2 * crossGcd u1 u2 = u1.num * u2.den := by
  unfold ratioL crossGcd
  exact Nat.div_mul_cancel (Nat.gcd_dvd_left _ _)

theorem ratioR_mul (u1 u2 : URat) : ratioR u1 u2 * crossGcd u1 u2 = u2.num * u1.den := by
  unfold ratioR crossGcd
  exact Nat.div_mul_cancel (Nat.gcd_dvd_right _ _)

theorem ratioL_pos (u1 u2 : URat) (h1 : u1.Pos) (h2 : u2.Pos) : 0 < ratioL u1 u2 :=
  Nat.div_gcd_pos_of_pos_left _ (Nat.mul_pos h1.1 h2.2)

theorem ratioR_pos (u1 u2 : URat) (h1 : u1.Pos) (h2 : u2.Pos) : 0 < ratioR u1 u2 :=
  Nat.div_gcd_pos_of_pos_right _ (Nat.mul_pos h2.1 h1.2)

/-- The two multipliers are coprime. -/
theorem ratio_coprime (u1 u2 : URat) (h1 : u1.Pos) (h2 : u2.Pos) :
    Nat.gcd (ratioL u1 u2) (ratioR u1 u2) = 1 :=
  Nat.coprime_div_gcd_div_gcd (crossGcd_pos u1 u2 h1 h2)

theorem ratio_symm (u1 u2 : URat) : ratioL u1 u2 = ratioR u2 u1 := by
  unfold ratioL ratioR crossGcd
  rw [Nat.gcd_comm]

theorem scale_pos (u : URat) (h : u.Pos) : 0 < u.scale := by
  unfold scale; rw [Rat.div_def]
  exact Rat.mul_pos (Rat.natCast_pos.mpr h.1) (Rat.inv_pos.mpr (Rat.natCast_pos.mpr h.2))

theorem common_pos (a b : URat) (ha : a.Pos) (hb : b.Pos) : (common a b).Pos :=
  ⟨crossGcd_pos a b ha hb, Nat.mul_pos ha.2 hb.2⟩

theorem common_scale_pos (u1 u2 : URat) (h1 : u1.Pos) (h2 : u2.Pos) : 0 < (common u1 u2).scale :=
  scale_pos _ (common_pos u1 u2 h1 h2)

theorem scale_eq_ratioL (u1 u2 : URat) (h1 : u1.Pos) (h2 : u2.Pos) :
    u1.scale = (ratioL u1 u2 : Rat) * (common u1 u2).scale := by
  have h := congrArg (fun n : Nat => (n : Rat)) (ratioL_mul u1 u2)
  simp only [Rat.natCast_mul] at h
  have hd1 := rat_natCast_ne_zero h1.2
  have hd2 := rat_natCast_ne_zero h2.2
  unfold scale common
  simp only [Rat.natCast_mul]
  -- n1/d1 = k1·(g/(d1·d2)): clear the denominators (`hd1`, `hd2`) and use `h`: k1·g = n1·d2
  grind

theorem scale_eq_ratioR (u1 u2 : URat) (h1 : u1.Pos) (h2 : u2.Pos) :
    u2.scale = (ratioR u1 u2 : Rat) * (common u1 u2).scale := by
  have h := congrArg (fun n : Nat => (n : Rat)) (ratioR_mul u1 u2)
  simp only [Rat.natCast_mul] at h
  have hd1 := rat_natCast_ne_zero h1.2
  have hd2 := rat_natCast_ne_zero h2.2
  unfold scale common
  simp only [Rat.natCast_mul]
  -- as for `scale_eq_ratioL`, with `h`: k2·g = n2·d1
  grind

theorem ratioL_ratioR_self (a : URat) (ha : a.Pos) : ratioL a a = 1 ∧ ratioR a a = 1 := by
  unfold ratioL ratioR crossGcd
  rw [Nat.gcd_self, Nat.div_self (Nat.mul_pos ha.1 ha.2)]
  exact ⟨rfl, rfl⟩

/-- `a` divides `b`: `b / a` is a (positive) integer. -/
def Divides (a b : URat) : Prop := b.den * a.num ∣ b.num * a.den

theorem Divides.trans {a b c : URat} (hb : b.Pos) (h1 : Divides a b) (h2 : Divides b c) : Divides a c := by
  unfold Divides at *
  -- multiply the two divisibilities and cancel `b.num * b.den`
  have h := Nat.mul_dvd_mul h2 h1
  rw [show c.den * b.num * (b.den * a.num) = (c.den * a.num) * (b.num * b.den) by ac_rfl,
    show c.num * b.den * (b.num * a.den) = (c.num * a.den) * (b.num * b.den) by ac_rfl] at h
  exact Nat.dvd_of_mul_dvd_mul_right (Nat.mul_pos hb.1 hb.2) h

theorem common_dvd_left (a b : URat) : Divides (common a b) a := by
  unfold Divides common crossGcd
  rw [show a.num * (a.den * b.den) = a.den * (a.num * b.den) by ac_rfl]
  exact Nat.mul_dvd_mul_left a.den (Nat.gcd_dvd_left _ _)

theorem common_dvd_right (a b : URat) : Divides (common a b) b := by
  unfold Divides common crossGcd
  rw [show b.num * (a.den * b.den) = b.den * (b.num * a.den) by ac_rfl]
  exact Nat.mul_dvd_mul_left b.den (Nat.gcd_dvd_right _ _)

/-- The common unit is the *greatest* common divisor. -/
theorem dvd_common (x a b : URat) (h1 : Divides x a) (h2 : Divides x b) : Divides x (common a b) := by
  unfold Divides at *
  unfold common crossGcd
  rw [← Nat.gcd_mul_right]
  apply Nat.dvd_gcd
  · rw [show a.den * b.den * x.num = b.den * (a.den * x.num) by ac_rfl,
      show a.num * b.den * x.den = b.den * (a.num * x.den) by ac_rfl]
    exact Nat.mul_dvd_mul_left b.den h1
  · rw [show a.den * b.den * x.num = a.den * (b.den * x.num) by ac_rfl,
      show b.num * a.den * x.den = a.den * (b.num * x.den) by ac_rfl]
    exact Nat.mul_dvd_mul_left a.den h2

theorem Divides.refl (a : URat) : Divides a a := by
  unfold Divides; rw [Nat.mul_comm]; exact Nat.dvd_refl _

theorem reduced_cross (u : URat) : u.den * (reduced u).num = u.num * (reduced u).den := by
  unfold reduced
  dsimp only
  rw [← Nat.mul_div_assoc _ (Nat.gcd_dvd_left _ _), ← Nat.mul_div_assoc _ (Nat.gcd_dvd_right _ _), Nat.mul_comm]

theorem reduced_dvd (u : URat) : Divides (reduced u) u := by
  unfold Divides; rw [reduced_cross]; exact Nat.dvd_refl _

theorem dvd_reduced (u : URat) : Divides u (reduced u) := by
  unfold Divides
  have := reduced_cross u
  rw [Nat.mul_comm (reduced u).den, Nat.mul_comm (reduced u).num, ← this]
  exact Nat.dvd_refl _

theorem reduced_pos (u : URat) (h : u.Pos) : (reduced u).Pos :=
  ⟨Nat.div_gcd_pos_of_pos_left _ h.1, Nat.div_gcd_pos_of_pos_right _ h.2⟩

end URat
end Au
