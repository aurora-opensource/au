/-
  The static_cast overflow checker between integer types (`castOverflowII`) says whether the value leaves the destination's
  range.
-/
import AuModel.StaticCast
import AuProofs.Lemmas.IntTy
namespace Au
open IntTy

/-- What the checker compares against, for the eight reps: a rep of equal signedness and at least the width contains the
range; `static_cast<Source>(max(Dest))` for an unsigned `Source` is `max(Dest)` clamped to `Source` (it wraps to all ones when
it does not fit); `make_unsigned_t` of a rep is one of the eight and holds its non-negative values. -/
theorem castII_tables :
    (∀ s ∈ IntTy.all, ∀ d ∈ IntTy.all, s.signed = d.signed → s.bits ≤ d.bits → d.lo ≤ s.lo ∧ s.hi ≤ d.hi) ∧
    (∀ u ∈ IntTy.all, u.signed = false → ∀ d ∈ IntTy.all, u.wrap d.hi = min d.hi u.hi) ∧
    (∀ s ∈ IntTy.all, (⟨s.bits, false⟩ : IntTy) ∈ IntTy.all ∧ s.hi ≤ (⟨s.bits, false⟩ : IntTy).hi) := by
  decide

/-- `will_static_cast_overflow<Dest>(x)` between integer types is exactly "x is outside the range of
`Dest`" — for all 64 ordered pairs, including those in which the limit of `Dest` does not fit the
source type and `static_cast<Source>(max)` wraps. -/
theorem castOverflowII_iff (s d : IntTy) (hs : s ∈ IntTy.all) (hd : d ∈ IntTy.all) (x : Int)
    (hx : s.inRange x) : castOverflowII s d x = true ↔ ¬ d.inRange x := by
  obtain ⟨hrange, hwrap, hus⟩ := castII_tables
  have hdlo := lo_nonpos d hd
  have hdhi := hi_nonneg d hd
  unfold castOverflowII categorizeOverflow
  simp only []
  by_cases hc : s.signed = d.signed ∧ s.bits ≤ d.bits
  · rw [if_pos hc]
    obtain ⟨h1, h2⟩ := hrange s hs d hd hc.1 hc.2
    simp [inRange_mono h1 h2 hx]
  · rw [if_neg hc]
    unfold IntTy.inRange at hx ⊢
    by_cases hsu : s.signed = false
    · -- unsigned source: `x > static_cast<Source>(max(Dest))`
      rw [if_pos hsu]
      simp only [hwrap s hs hsu d hd, decide_eq_true_eq]
      have := unsigned_lo s hsu
      omega
    · rw [if_neg hsu]
      by_cases hdu : d.signed = false
      · -- signed to unsigned: negative, or too large after both sides are made unsigned
        rw [if_pos hdu]
        obtain ⟨hmem, hle⟩ := hus s hs
        have := unsigned_lo d hdu
        simp only [hwrap _ hmem rfl d hd, Bool.or_eq_true, decide_eq_true_eq]
        by_cases hx0 : x < 0
        · simp only [hx0, true_or, true_iff]; omega
        · rw [wrap_of_inRange _ hmem x ⟨by rw [unsigned_lo _ rfl]; omega, by omega⟩]
          omega
      · -- signed to a narrower signed rep, whose limits the source holds
        rw [if_neg hdu]
        have hss : s.signed = d.signed := by cases h1 : s.signed <;> cases h2 : d.signed <;> simp_all
        obtain ⟨h1, h2⟩ := hrange d hd s hs hss.symm (by have : ¬ s.bits ≤ d.bits := fun h => hc ⟨hss, h⟩; omega)
        rw [wrap_of_inRange s hs d.lo ⟨h1, by omega⟩, wrap_of_inRange s hs d.hi ⟨by omega, h2⟩]
        simp only [Bool.or_eq_true, decide_eq_true_eq]
        omega

theorem castOverflowII_false (s d : IntTy) (hs : s ∈ IntTy.all) (hd : d ∈ IntTy.all) (x : Int)
    (hx : s.inRange x) : castOverflowII s d x = false ↔ d.inRange x := by
  rw [← Bool.not_eq_true, castOverflowII_iff s d hs hd x hx, Decidable.not_not]

end Au
