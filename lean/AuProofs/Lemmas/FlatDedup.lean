import AuModel.CommonUnit
import AuProofs.Lemmas.Pack

/-! `FlatDedupedTypeList` is determined by the members of its inputs: it holds exactly those (`mem_flatDedup`), in
strictly ascending order (`flatDedup_sorted`), so any two input lists with the same members agree (`flatDedup_congr`). -/
namespace Au
section
variable {α : Type} [DecidableEq α] {lt : α → α → Bool}

/-- Strictly sorted by `lt` itself (`Pack.Sorted` compares keys; here the key is the element). -/
def SSorted (lt : α → α → Bool) (l : List α) : Prop := l.Pairwise (fun a b => lt a b = true)

theorem mem_insertDedup (x : α) (l : List α) (y : α) :
    y ∈ insertDedup lt x l ↔ y = x ∨ y ∈ l := by
  induction l with
  | nil => simp [insertDedup]
  | cons h t ih =>
    unfold insertDedup
    split
    next hx => subst hx; simp
    · split
      · simp
      · simp only [List.mem_cons, ih]; exact or_left_comm

theorem mem_mergeDedup (a b : List α) (y : α) : y ∈ mergeDedup lt a b ↔ y ∈ a ∨ y ∈ b := by
  unfold mergeDedup
  split
  · rw [mem_insertDedup, List.mem_singleton]
  next hna =>
    -- the residue `hna : a = [t] → False` of `split` mentions `a` and would enter the hypothesis of induction
    clear hna
    induction b generalizing a with
    | nil => simp
    | cons x t ih => rw [List.foldl_cons, ih, mem_insertDedup, List.mem_cons, or_comm (a := y = x), or_assoc]

theorem mem_flatDedup (ls : List (List α)) (y : α) : y ∈ flatDedup lt ls ↔ ∃ l ∈ ls, y ∈ l := by
  cases ls with
  | nil => simp [flatDedup]
  | cons l rest =>
    rw [flatDedup]
    induction rest generalizing l with
    | nil => simp
    | cons r t ih => simp [ih, mem_mergeDedup, or_assoc]

omit [DecidableEq α] in
theorem exists_mem_map_iff {β : Type} (f : β → List α) (us : List β) (y : α) :
    (∃ l ∈ us.map f, y ∈ l) ↔ ∃ u ∈ us, y ∈ f u := by
  constructor
  · rintro ⟨_, hl, hy⟩; obtain ⟨u, hu, rfl⟩ := List.mem_map.1 hl; exact ⟨u, hu, hy⟩
  · rintro ⟨u, hu, hy⟩; exact ⟨_, List.mem_map_of_mem hu, hy⟩

theorem mem_flatDedup_map {β : Type} (f : β → List α) (us : List β) (y : α) :
    y ∈ flatDedup lt (us.map f) ↔ ∃ u ∈ us, y ∈ f u := by
  rw [mem_flatDedup, exists_mem_map_iff]

theorem insertDedup_sorted (h : StrictTotal lt) (x : α) (l : List α) (hs : SSorted lt l) :
    SSorted lt (insertDedup lt x l) := by
  induction l with
  | nil => simp [insertDedup, SSorted]
  | cons hd t ih =>
    have ⟨hhd, ht⟩ := List.pairwise_cons.1 hs
    unfold insertDedup
    split
    · exact hs
    next hne =>
      split
      next hlt =>
        exact List.pairwise_cons.2
          ⟨List.forall_mem_cons.2 ⟨hlt, fun y hy => h.trans _ _ _ hlt (hhd y hy)⟩, hs⟩
      next hnlt =>
        -- `x` is neither equal to nor below `hd`, so it is above it
        have hgt : lt hd x = true := Decidable.by_contra fun hh => hne (h.eq_of_not_lt hnlt hh)
        exact List.pairwise_cons.2
          ⟨fun y hy => ((mem_insertDedup x t y).1 hy).elim (fun e => e ▸ hgt) (hhd y), ih ht⟩

theorem mergeDedup_sorted (h : StrictTotal lt) (a b : List α) (ha : SSorted lt a) (hb : SSorted lt b) :
    SSorted lt (mergeDedup lt a b) := by
  unfold mergeDedup
  split
  · exact insertDedup_sorted h _ b hb
  · exact List.foldlRecOn b _ ha fun acc hacc x _ => insertDedup_sorted h x acc hacc

theorem flatDedup_sorted (h : StrictTotal lt) (ls : List (List α)) (hs : ∀ l ∈ ls, SSorted lt l) :
    SSorted lt (flatDedup lt ls) := by
  cases ls with
  | nil => exact List.Pairwise.nil
  | cons l rest =>
    exact List.foldlRecOn rest _ (hs l (List.mem_cons_self ..)) fun acc hacc r hr =>
      mergeDedup_sorted h acc r hacc (hs r (List.mem_cons_of_mem _ hr))

/-- **Order- and repetition-independence of `FlatDedupedTypeList`**: two lists of (sorted) inputs with
the same members overall give the identical result. -/
theorem flatDedup_congr (h : StrictTotal lt) (ls ls' : List (List α))
    (hs : ∀ l ∈ ls, SSorted lt l) (hs' : ∀ l ∈ ls', SSorted lt l)
    (hm : ∀ y, (∃ l ∈ ls, y ∈ l) ↔ ∃ l ∈ ls', y ∈ l) : flatDedup lt ls = flatDedup lt ls' :=
  Pack.eq_of_sorted_of_mem_iff h id (flatDedup_sorted h ls hs) (flatDedup_sorted h ls' hs') fun y => by
    rw [mem_flatDedup, mem_flatDedup, hm]

theorem flatDedup_map_congr {β : Type} (h : StrictTotal lt) (f : β → List α) (us vs : List β)
    (hs : ∀ u ∈ us, SSorted lt (f u)) (hs' : ∀ u ∈ vs, SSorted lt (f u))
    (hm : ∀ u, u ∈ us ↔ u ∈ vs) : flatDedup lt (us.map f) = flatDedup lt (vs.map f) :=
  flatDedup_congr h _ _ (List.forall_mem_map.2 hs) (List.forall_mem_map.2 hs') fun y => by
    simp only [exists_mem_map_iff, hm]
end
end Au
