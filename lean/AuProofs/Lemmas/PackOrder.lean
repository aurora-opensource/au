import AuModel.Pack
import AuProofs.Lemmas.Mag
import AuProofs.Lemmas.LexOrderOn

/-! # `InStandardPackOrder` preserves strict weak and strict total orders

The recursive case of `InStandardPackOrder` (packs.hh:356-362) is `LexicographicTotalOrdering` over
`detail::LeadBasesInOrder`, `LeadExpsInOrder`, `TailsInStandardPackOrder`, and the empty pack sorts first.  So `packLt lt`
is a strict weak order on the packs whose bases lie in a set on which `lt` is one (`packLt_SWOn`) — which serves both the
keys `OrderByDim` / `OrderByMag` of the unit ordering (`lt` a strict total order on all bases) and its last key
`OrderAsUnitProduct` (`lt` the unit ordering itself, known so far only on smaller units). -/
namespace Au

namespace Pack
variable {β : Type}

def uncons : Pack β → Option ((β × Rat) × Pack β)
  | [] => none
  | x :: t => some (x, t)

/-- `LeadBasesInOrder`, `LeadExpsInOrder` (`ratio_subtract<E1, E2>::num < 0`, i.e. `E1 < E2`) and
`TailsInStandardPackOrder`, on a non-empty pack given as (lead element, tail). -/
def packKeys (lt : β → β → Bool) : List ((β × Rat) × Pack β → (β × Rat) × Pack β → Bool) :=
  [fun x y => lt x.1.1 y.1.1, fun x y => decide (x.1.2 < y.1.2), fun x y => packLt lt x.2 y.2]

theorem packLt_eq_lexLt (lt : β → β → Bool) (p q : Pack β) :
    packLt lt p q = optLt (lexLt (packKeys lt)) p.uncons q.uncons := by
  match p, q with
  | [], [] => rfl
  | [], _ :: _ => rfl
  | _ :: _, [] => rfl
  | (b1, e1) :: t1, (b2, e2) :: t2 =>
    have h12 : e1 - e2 < 0 ↔ e1 < e2 := by grind
    have h21 : e2 - e1 < 0 ↔ e2 < e1 := by grind
    simp only [packLt, uncons, optLt, packKeys, ↓ lexLt_singleton, lexLt, h12, h21, decide_eq_true_eq]

theorem packKeys_SWOn {S : β → Prop} {T : Pack β → Prop} {lt : β → β → Bool} (h : SWOn S lt) (ht : SWOn T (packLt lt)) :
    SWOn (fun x : (β × Rat) × Pack β => S x.1.1 ∧ T x.2) (lexLt (packKeys lt)) :=
  .lexCons (h.comap (fun x : (β × Rat) × Pack β => x.1.1) fun _ hx => hx.1) <|
  .lexCons ((ratLt_strictTotal.strictWeak.on fun _ => True).comap (fun x : (β × Rat) × Pack β => x.1.2) fun _ _ => trivial) <|
  .lexCons (ht.comap (fun x : (β × Rat) × Pack β => x.2) fun _ hx => hx.2) (.lexNil _)

theorem packLt_SWOn {S : β → Prop} {lt : β → β → Bool} (h : SWOn S lt) :
    SWOn (fun p : Pack β => ∀ x ∈ p, S x.1) (packLt lt) := by
  refine .of_measure List.length fun n ih => ?_
  rw [funext fun p => funext (packLt_eq_lexLt lt p)]
  have hun : ∀ p : Pack β, (p.length < n + 1 ∧ ∀ x ∈ p, S x.1) →
      ∀ a ∈ p.uncons, S a.1.1 ∧ a.2.length < n ∧ ∀ y ∈ a.2, S y.1 := by
    rintro (_ | ⟨x, t⟩) ⟨hn, hS⟩ a ha <;> cases ha
    exact ⟨hS x (.head _), by simpa using hn, fun y hy => hS y (.tail _ hy)⟩
  exact (packKeys_SWOn h ih).option.comap uncons hun

theorem packLt_strictWeak {lt : β → β → Bool} (h : StrictWeak lt) : StrictWeak (packLt lt) :=
  ((packLt_SWOn (h.on fun _ => True)).mono fun _ _ _ _ => trivial).strictWeak

theorem packLt_total {lt : β → β → Bool} (h : StrictTotal lt) :
    ∀ a b : Pack β, packLt lt a b = false → packLt lt b a = false → a = b
  | [], [], _, _ => rfl
  | [], _ :: _, h1, _ => nomatch h1
  | _ :: _, [], _, h2 => nomatch h2
  | (b1, e1) :: t1, (b2, e2) :: t2, h1, h2 => by
    rw [packLt_eq_lexLt] at h1 h2
    have t := lexLt_tie (packKeys lt) ((b1, e1), t1) ((b2, e2), t2) h1 h2
    simp only [packKeys, List.forall_mem_cons, decide_eq_false_iff_not] at t
    obtain ⟨⟨tb12, tb21⟩, te, ⟨tt12, tt21⟩, -⟩ := t
    cases h.total b1 b2 tb12 tb21
    cases (show e1 = e2 by grind)
    rw [packLt_total h t1 t2 tt12 tt21]

/-- **`InStandardPackOrder` is a strict total order on packs whenever the base order is one** — in
particular `OrderByDim` and `OrderByMag`, the second and third keys of the unit ordering, are strict
total orders on dimensions and magnitudes. -/
theorem packLt_strictTotal {lt : β → β → Bool} (h : StrictTotal lt) : StrictTotal (packLt lt) :=
  have sw := packLt_strictWeak h.strictWeak
  ⟨sw.irrefl, sw.trans, packLt_total h⟩

end Pack

theorem orderByDim_strictTotal : StrictTotal (Pack.packLt dimLt) := Pack.packLt_strictTotal dimLt_strictTotal
theorem orderByMag_strictTotal : StrictTotal (Pack.packLt MagBase.lt) := Pack.packLt_strictTotal MagBase.lt_strictTotal

end Au
