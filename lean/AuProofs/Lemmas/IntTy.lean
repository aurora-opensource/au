/-
  AuProofs.Lemmas.IntTy — the integral reps of `AuModel.Arith`.  Table facts are `decide`d over `IntTy.all`; core
  Lean only.
-/
import AuModel.Arith
namespace Au
open IntTy

theorem inRange_mono {a b : IntTy} {v : Int} (hlo : b.lo ≤ a.lo) (hhi : a.hi ≤ b.hi) (h : a.inRange v) :
    b.inRange v := by
  unfold IntTy.inRange at *; omega

theorem lo_nonpos : ∀ t ∈ IntTy.all, t.lo ≤ 0 := by decide
theorem hi_pos : ∀ t ∈ IntTy.all, 0 < t.hi := by decide
theorem hi_nonneg (t : IntTy) (ht : t ∈ IntTy.all) : 0 ≤ t.hi := Int.le_of_lt (hi_pos t ht)

theorem unsigned_lo (t : IntTy) (h : t.signed = false) : t.lo = 0 := by
  simp [IntTy.lo, h]

theorem signed_lo_neg : ∀ t ∈ IntTy.all, t.signed = true → t.lo < 0 := by decide

theorem inRange_of_nat (t : IntTy) (ht : t ∈ IntTy.all) (N : Nat) (h : (N : Int) ≤ t.hi) : t.inRange N := by
  have := lo_nonpos t ht
  exact ⟨by omega, h⟩

theorem lo_eq : ∀ t ∈ IntTy.all, t.lo = 0 ∨ t.lo = -(t.hi + 1) := by decide

-- of `t ∈ IntTy.all` the `wrap` lemmas use only `0 < t.bits`
theorem bits_pos : ∀ t ∈ IntTy.all, 0 < t.bits := by decide

theorem two_pow_bits (t : IntTy) (h : 0 < t.bits) : (2 : Int) ^ t.bits = 2 * 2 ^ (t.bits - 1) := by
  have : t.bits = (t.bits - 1) + 1 := by omega
  rw [this, Int.pow_succ, Nat.add_sub_cancel]; omega

theorem wrap_inRange (t : IntTy) (ht : t ∈ IntTy.all) (x : Int) : t.inRange (t.wrap x) := by
  have hm := two_pow_bits t (bits_pos t ht)
  have hpos : (0 : Int) < 2 ^ t.bits := Int.pow_pos (by decide)
  have h0 := Int.emod_nonneg x (Int.ne_of_gt hpos)
  have h1 := Int.emod_lt_of_pos x hpos
  unfold IntTy.inRange IntTy.lo IntTy.hi IntTy.wrap
  dsimp only
  cases hs : t.signed with
  | false => simp only [Bool.false_eq_true, if_false, Bool.false_and]; omega
  | true =>
    simp only [if_true, Bool.true_and, decide_eq_true_eq]
    split <;> omega

theorem wrap_of_inRange (t : IntTy) (ht : t ∈ IntTy.all) (v : Int) (h : t.inRange v) : t.wrap v = v := by
  have hm := two_pow_bits t (bits_pos t ht)
  have hpos : (0 : Int) < 2 ^ (t.bits - 1) := Int.pow_pos (by decide)
  unfold IntTy.inRange IntTy.lo IntTy.hi at h
  unfold IntTy.wrap
  dsimp only
  cases hs : t.signed with
  | false =>
    simp only [hs, Bool.false_eq_true, if_false, Bool.false_and] at h ⊢
    exact Int.emod_eq_of_lt h.1 (by omega)
  | true =>
    simp only [hs, if_true, Bool.true_and, decide_eq_true_eq] at h ⊢
    by_cases hv : 0 ≤ v
    · rw [Int.emod_eq_of_lt hv (by omega), if_neg (by omega)]
    · have : v % 2 ^ t.bits = v + 2 ^ t.bits := by
        rw [← Int.add_emod_right]; exact Int.emod_eq_of_lt (by omega) (by omega)
      rw [this, if_pos (by omega)]; omega

theorem wrap_eq_self_iff (t : IntTy) (ht : t ∈ IntTy.all) (v : Int) : t.wrap v = v ↔ t.inRange v :=
  ⟨fun h => h ▸ wrap_inRange t ht v, wrap_of_inRange t ht v⟩

theorem wrap_idem (t : IntTy) (ht : t ∈ IntTy.all) (x : Int) : t.wrap (t.wrap x) = t.wrap x :=
  wrap_of_inRange t ht _ (wrap_inRange t ht x)

theorem promote_mem : ∀ t ∈ IntTy.all, t.promote ∈ IntTy.all := by decide
theorem promote_hi : ∀ t ∈ IntTy.all, t.hi ≤ t.promote.hi := by decide
theorem promote_lo : ∀ t ∈ IntTy.all, t.promote.lo ≤ t.lo := by decide

theorem promote_inRange (t : IntTy) (ht : t ∈ IntTy.all) (x : Int) (h : t.inRange x) : t.promote.inRange x :=
  inRange_mono (promote_lo t ht) (promote_hi t ht) h

-- `promote t` is `int` or `t` itself, whatever the width
set_option linter.unusedVariables false in
theorem signed_promote (t : IntTy) (ht : t ∈ IntTy.all) (h : t.signed = true) : t.promote.signed = true := by
  unfold IntTy.promote
  split
  · rfl
  · exact h

theorem promote_of_ge32 (t : IntTy) (h : ¬ t.bits < 32) : t.promote = t := by
  simp [IntTy.promote, h]

theorem promote_of_lt32 (t : IntTy) (h : t.bits < 32) : t.promote = i32 := by
  simp [IntTy.promote, h]

/-- The reps narrower than `int` lie within `[i16.lo, u16.hi]`: sums, differences, negations cannot overflow `int`. -/
theorem subint_range : ∀ t ∈ IntTy.all, t.bits < 32 → -32768 ≤ t.lo ∧ t.hi ≤ 65535 := by decide

theorem subint_addsub_inRange (t : IntTy) (ht : t ∈ IntTy.all) (h : t.bits < 32) (a b : Int)
    (ha : t.inRange a) (hb : t.inRange b) : i32.inRange (a + b) ∧ i32.inRange (a - b) := by
  have := subint_range t ht h
  have hlo : i32.lo = -2147483648 := by decide
  have hhi : i32.hi = 2147483647 := by decide
  simp only [IntTy.inRange, hlo, hhi] at ha hb ⊢
  omega

theorem common_self (a : IntTy) : IntTy.common a a = a := by simp [IntTy.common]

theorem uac_self (a : IntTy) : IntTy.uac a a = a.promote := by simp [IntTy.uac]

theorem uac_comm (a b : IntTy) (ha : a ∈ IntTy.all) (hb : b ∈ IntTy.all) : IntTy.uac a b = IntTy.uac b a :=
  (by decide : ∀ a ∈ IntTy.all, ∀ b ∈ IntTy.all, IntTy.uac a b = IntTy.uac b a) a ha b hb

theorem uac_mem (a b : IntTy) (ha : a ∈ IntTy.all) (hb : b ∈ IntTy.all) : IntTy.uac a b ∈ IntTy.all :=
  (by decide : ∀ a ∈ IntTy.all, ∀ b ∈ IntTy.all, IntTy.uac a b ∈ IntTy.all) a ha b hb

theorem common_promote : ∀ c ∈ IntTy.all, IntTy.common c.promote c = c.promote := by decide

theorem common_mem (a b : IntTy) (ha : a ∈ IntTy.all) (hb : b ∈ IntTy.all) : IntTy.common a b ∈ IntTy.all :=
  (by decide : ∀ a ∈ IntTy.all, ∀ b ∈ IntTy.all, IntTy.common a b ∈ IntTy.all) a ha b hb

theorem common_absorb : ∀ t1 ∈ IntTy.all, ∀ t2 ∈ IntTy.all,
    IntTy.common t1 (IntTy.common t1 t2) = IntTy.common t1 t2 ∧
      IntTy.common t2 (IntTy.common t1 t2) = IntTy.common t1 t2 := by decide

theorem common_comm (a b : IntTy) (ha : a ∈ IntTy.all) (hb : b ∈ IntTy.all) : IntTy.common a b = IntTy.common b a :=
  (by decide : ∀ a ∈ IntTy.all, ∀ b ∈ IntTy.all, IntTy.common a b = IntTy.common b a) a ha b hb

/-- Only the range inclusions need equal signedness (`common i32 u32 = u32`); the upper bounds even without. -/
theorem common_range : ∀ r1 ∈ IntTy.all, ∀ r2 ∈ IntTy.all, r1.signed = r2.signed →
    (IntTy.common r1 r2).lo ≤ r1.lo ∧ r1.hi ≤ (IntTy.common r1 r2).hi ∧
      (IntTy.common r1 r2).lo ≤ r2.lo ∧ r2.hi ≤ (IntTy.common r1 r2).hi := by decide

theorem common_facts : ∀ r1 ∈ IntTy.all, ∀ r2 ∈ IntTy.all, r1.signed = r2.signed →
    (IntTy.common r1 r2 ∈ IntTy.all ∧ (IntTy.common r1 r2).lo ≤ r1.lo ∧ r1.hi ≤ (IntTy.common r1 r2).hi ∧
     (IntTy.common r1 r2).lo ≤ r2.lo ∧ r2.hi ≤ (IntTy.common r1 r2).hi ∧
     IntTy.common r1 (IntTy.common r1 r2) = IntTy.common r1 r2 ∧
     IntTy.common r2 (IntTy.common r1 r2) = IntTy.common r1 r2 ∧
     IntTy.common (IntTy.common r1 r2) (IntTy.common r1 r2) = IntTy.common r1 r2 ∧
     IntTy.common r2 r1 = IntTy.common r1 r2) := by
  intro r1 h1 r2 h2 hs
  obtain ⟨hlo1, hhi1, hlo2, hhi2⟩ := common_range r1 h1 r2 h2 hs
  obtain ⟨e1, e2⟩ := common_absorb r1 h1 r2 h2
  exact ⟨common_mem r1 r2 h1 h2, hlo1, hhi1, hlo2, hhi2, e1, e2, common_self _, common_comm r2 r1 h2 h1⟩

theorem inRange_common_left (r1 r2 : IntTy) (h1 : r1 ∈ IntTy.all) (h2 : r2 ∈ IntTy.all) (hs : r1.signed = r2.signed)
    {v : Int} (h : r1.inRange v) : (IntTy.common r1 r2).inRange v := by
  obtain ⟨hlo, hhi, -, -⟩ := common_range r1 h1 r2 h2 hs
  exact inRange_mono hlo hhi h

theorem inRange_common_right (r1 r2 : IntTy) (h1 : r1 ∈ IntTy.all) (h2 : r2 ∈ IntTy.all) (hs : r1.signed = r2.signed)
    {v : Int} (h : r2.inRange v) : (IntTy.common r1 r2).inRange v := by
  obtain ⟨-, -, hlo, hhi⟩ := common_range r1 h1 r2 h2 hs
  exact inRange_mono hlo hhi h

theorem uac_facts : ∀ r1 ∈ IntTy.all, ∀ r2 ∈ IntTy.all, r1.signed = r2.signed →
    (IntTy.uac r1 r2 ∈ IntTy.all ∧ (IntTy.uac r1 r2).lo ≤ r1.lo ∧ r1.hi ≤ (IntTy.uac r1 r2).hi ∧
     (IntTy.uac r1 r2).lo ≤ r2.lo ∧ r2.hi ≤ (IntTy.uac r1 r2).hi ∧ IntTy.common r1 r1 = r1 ∧ IntTy.common r2 r2 = r2) := by
  decide

/-- Truncating division: comparing against `L / N` is comparing the product against `L`. -/
theorem thr_pos (L N x : Int) (hN : 0 < N) (hL : 0 ≤ L) : x ≤ Int.tdiv L N ↔ x * N ≤ L := by
  rw [Int.tdiv_eq_ediv_of_nonneg hL]
  exact Int.le_ediv_iff_mul_le hN

/-- The mirror image of `thr_pos` under `x ↦ -x`, `L ↦ -L` (truncation is symmetric about zero). -/
theorem thr_neg (L N x : Int) (hN : 0 < N) (hL : L ≤ 0) : Int.tdiv L N ≤ x ↔ L ≤ x * N := by
  have := thr_pos (-L) N (-x) hN (by omega)
  rw [Int.neg_tdiv, Int.neg_mul] at this
  omega

theorem tmod_sq_lt (a b : Int) (hb : b ≠ 0) : Int.tmod a b * Int.tmod a b < b * b := by
  have h : (Int.tmod a b).natAbs < b.natAbs := by
    rw [Int.natAbs_tmod]; exact Nat.mod_lt _ (Int.natAbs_pos.mpr hb)
  rw [← Int.natAbs_mul_self (a := Int.tmod a b), ← Int.natAbs_mul_self (a := b)]
  exact Int.ofNat_lt.mpr (Nat.mul_self_lt_mul_self h)

theorem tmod_nonpos (a b : Int) (h : a ≤ 0) : Int.tmod a b ≤ 0 := by
  have h1 : Int.tmod a b = -Int.tmod (-a) b := by rw [Int.neg_tmod, Int.neg_neg]
  have h2 := Int.tmod_nonneg (a := -a) b (by omega)
  omega

/-- The common body of `mulIn` and of `addIn`, `subIn`, `negIn` in the sub-models. -/
def Step.checked (p : IntTy) (r : Int) (why : String) : Step :=
  if p.signed then
    if p.inRange r then ⟨.ok r, false⟩ else ⟨.ub why, false⟩
  else ⟨.ok (p.wrap r), !(decide (p.inRange r))⟩

theorem Step.checked_clean_iff (p : IntTy) (hp : p ∈ IntTy.all) (r z : Int) (why : String) :
    Step.checked p r why = ⟨.ok z, false⟩ ↔ p.inRange r ∧ z = r := by
  unfold Step.checked
  by_cases hr : p.inRange r
  · cases p.signed <;> simp [hr, wrap_of_inRange p hp r hr, eq_comm]
  · cases p.signed <;> simp [hr]

theorem Step.checked_ok (p : IntTy) (hp : p ∈ IntTy.all) (r : Int) (why : String) (h : p.inRange r) :
    Step.checked p r why = ⟨.ok r, false⟩ := (Step.checked_clean_iff p hp r r why).2 ⟨h, rfl⟩

theorem mulIn_clean_iff (p : IntTy) (hp : p ∈ IntTy.all) (a b z : Int) :
    mulIn p a b = ⟨.ok z, false⟩ ↔ p.inRange (a * b) ∧ z = a * b := Step.checked_clean_iff p hp _ z _

theorem mulIn_ok (p : IntTy) (hp : p ∈ IntTy.all) (a b : Int) (h : p.inRange (a * b)) :
    mulIn p a b = ⟨.ok (a * b), false⟩ := Step.checked_ok p hp _ _ h

/-- The guard of `divIn` and `modIn` against `min / -1`. -/
theorem not_lo_div_neg_one (p : IntTy) (a b : Int) (h : ¬ (a = p.lo ∧ b = -1)) :
    ¬ (p.signed && decide (a = p.lo) && decide (b = -1)) = true := by
  simp only [Bool.and_eq_true, decide_eq_true_eq]
  exact fun ⟨⟨_, h1⟩, h2⟩ => h ⟨h1, h2⟩

theorem divIn_ok (p : IntTy) (a b : Int) (hb : b ≠ 0) (h : ¬ (a = p.lo ∧ b = -1)) :
    divIn p a b = ⟨.ok (Int.tdiv a b), false⟩ := by
  unfold divIn
  rw [if_neg hb, if_neg (not_lo_div_neg_one p a b h)]

theorem divIn_ok_of_pos (p : IntTy) (a b : Int) (hb : 0 < b) :
    divIn p a b = ⟨.ok (Int.tdiv a b), false⟩ :=
  divIn_ok p a b (by omega) (by omega)

theorem modIn_ok (p : IntTy) (a b : Int) (hb : b ≠ 0) (h : ¬ (a = p.lo ∧ b = -1)) :
    modIn p a b = ⟨.ok (Int.tmod a b), false⟩ := by
  unfold modIn
  rw [if_neg hb, if_neg (not_lo_div_neg_one p a b h)]

end Au
