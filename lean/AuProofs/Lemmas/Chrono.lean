/-
  The magnitude side of C17.  Packs are reasoned about through their exponent function `Mag.exp` alone:
  a valid pack is the graph of `exp` away from 0 (`mem_iff_exp`, hence `ext_of_exp`; for valid packs: `Ok.ext`), and "the head is below
  the tail" is a statement about exponents (`ok_cons_iff`), so each clause of `PackProduct` / `CommonMagnitude`
  is checked without looking into the lists.  The bridge to numbers is `Mag.IsRatio m a b`, "`m` is the
  magnitude of `a / b`" (exponents = difference of the factorizations): `mag<N>()`, quotients, numerator,
  denominator, `CommonMagnitude`, integrality and value are closure lemmas about it, and the statements about
  periods compose them.  At the end, the implicit-conversion policy in closed form (`corePolicy_eq`), which
  needs the value of an integer magnitude.
-/
import AuModel.Chrono
import AuProofs.Lemmas.IntTy
import Mathlib.Data.Nat.Factorization.Basic
import Mathlib.Tactic.Ring
import Mathlib.Tactic.Linarith

theorem Nat.Coprime.factorization_eq_zero_or {a b : Nat} (h : Nat.Coprime a b) (q : Nat) :
    a.factorization q = 0 ∨ b.factorization q = 0 := by
  by_contra hc
  rw [not_or] at hc
  have hq : q ∣ 1 := h ▸ Nat.dvd_gcd (Nat.dvd_of_factorization_pos hc.1) (Nat.dvd_of_factorization_pos hc.2)
  rw [Nat.dvd_one.1 hq] at hc
  simp at hc

namespace Au.Chrono
namespace Mag

def exp : Mag → Nat → Int
  | [], _ => 0
  | (b, e) :: t, p => (if b = p then e else 0) + exp t p

@[simp] theorem exp_nil (p : Nat) : exp [] p = 0 := rfl
@[simp] theorem exp_cons (b : Nat) (e : Int) (t : Mag) (p : Nat) :
    exp ((b, e) :: t) p = (if b = p then e else 0) + exp t p := rfl

/-- `AreBasesInOrder`. -/
def Sorted (m : Mag) : Prop := m.Pairwise (fun a b => a.1 < b.1)
/-- `AreAllPowersNonzero`. -/
def NoZero (m : Mag) : Prop := ∀ a ∈ m, a.2 ≠ 0
def Primes (m : Mag) : Prop := ∀ a ∈ m, Nat.Prime a.1

/-- `IsValidPack<Magnitude, M>` plus primality of the bases. -/
structure Ok (m : Mag) : Prop where
  sorted : Sorted m
  nozero : NoZero m
  primes : Primes m

theorem ok_nil : Ok [] := ⟨List.Pairwise.nil, (fun a h => by cases h), (fun a h => by cases h)⟩

theorem base_of_exp_ne_zero {m : Mag} {p : Nat} (h : exp m p ≠ 0) : ∃ x ∈ m, x.1 = p := by
  induction m with
  | nil => exact absurd rfl h
  | cons a t ih =>
    by_cases ha : a.1 = p
    · exact ⟨a, List.mem_cons_self .., ha⟩
    · obtain ⟨x, hx, e⟩ := ih (by simpa [exp, ha] using h)
      exact ⟨x, List.mem_cons_of_mem _ hx, e⟩

theorem exp_eq_zero_of_lt (m : Mag) (p : Nat) (h : ∀ x ∈ m, p < x.1) : exp m p = 0 := by
  by_contra hc
  obtain ⟨x, hx, rfl⟩ := base_of_exp_ne_zero hc
  exact Nat.lt_irrefl _ (h x hx)

theorem exp_of_mem {m : Mag} (hs : Sorted m) {x : Nat × Int} (hx : x ∈ m) : exp m x.1 = x.2 := by
  induction m with
  | nil => cases hx
  | cons a t ih =>
    obtain ⟨hlt, ht⟩ := List.pairwise_cons.1 hs
    rcases List.mem_cons.1 hx with rfl | hx'
    · simp [exp, exp_eq_zero_of_lt t _ hlt]
    · simp [exp, ih ht hx', (hlt x hx').ne]

theorem mem_iff_exp {m : Mag} (hs : Sorted m) (hz : NoZero m) (x : Nat × Int) :
    x ∈ m ↔ x.2 ≠ 0 ∧ exp m x.1 = x.2 := by
  refine ⟨fun hx => ⟨hz x hx, exp_of_mem hs hx⟩, fun ⟨h0, he⟩ => ?_⟩
  obtain ⟨y, hy, hyx⟩ := base_of_exp_ne_zero (he ▸ h0)
  have : y = x := Prod.ext hyx (by rw [← exp_of_mem hs hy, hyx, he])
  exact this ▸ hy

theorem ext_of_exp {a b : Mag} (ha : Sorted a) (hza : NoZero a) (hb : Sorted b) (hzb : NoZero b)
    (h : ∀ p, exp a p = exp b p) : a = b :=
  haveI : Std.Irrefl (fun a b : Nat × Int => a.1 < b.1) := ⟨fun _ => Nat.lt_irrefl _⟩
  haveI : Std.Antisymm (fun a b : Nat × Int => a.1 < b.1) := ⟨fun _ _ h h' => absurd h (Nat.lt_asymm h')⟩
  List.Pairwise.eq_of_mem_iff ha hb fun x => by rw [mem_iff_exp ha hza, mem_iff_exp hb hzb, h]

theorem Ok.ext {a b : Mag} (ha : Ok a) (hb : Ok b) (h : ∀ p, exp a p = exp b p) : a = b :=
  ext_of_exp ha.sorted ha.nozero hb.sorted hb.nozero h

/-- Validity of `(b, e) :: t`, with "every base of `t` is above `b`" said through exponents. -/
theorem ok_cons_iff {b : Nat} {e : Int} {t : Mag} :
    Ok ((b, e) :: t) ↔ Nat.Prime b ∧ e ≠ 0 ∧ Ok t ∧ ∀ p ≤ b, exp t p = 0 := by
  constructor
  · intro h
    obtain ⟨hlt, hs⟩ := List.pairwise_cons.1 h.sorted
    exact ⟨h.primes _ (List.mem_cons_self ..), h.nozero _ (List.mem_cons_self ..),
      ⟨hs, fun x hx => h.nozero x (List.mem_cons_of_mem _ hx), fun x hx => h.primes x (List.mem_cons_of_mem _ hx)⟩,
      fun p hp => exp_eq_zero_of_lt t p fun x hx => Nat.lt_of_le_of_lt hp (hlt x hx)⟩
  · rintro ⟨hp, he, ht, h0⟩
    have hlt : ∀ x ∈ t, b < x.1 := fun x hx => by
      by_contra hc
      exact ht.nozero x hx (by rw [← exp_of_mem ht.sorted hx]; exact h0 _ (Nat.le_of_not_lt hc))
    exact ⟨List.pairwise_cons.2 ⟨hlt, ht.sorted⟩,
      fun x hx => by rcases List.mem_cons.1 hx with rfl | hx; exacts [he, ht.nozero x hx],
      fun x hx => by rcases List.mem_cons.1 hx with rfl | hx; exacts [hp, ht.primes x hx]⟩

theorem Ok.tail {a : Nat × Int} {t : Mag} (h : Ok (a :: t)) : Ok t := by
  obtain ⟨-, -, ht, -⟩ := ok_cons_iff.1 h
  exact ht

theorem Ok.exp_eq_zero_of_lt {b : Nat} {e : Int} {t : Mag} (h : Ok ((b, e) :: t)) {p : Nat} (hp : p < b) :
    exp ((b, e) :: t) p = 0 := by
  obtain ⟨-, -, -, h0⟩ := ok_cons_iff.1 h
  rw [exp_cons, if_neg (Nat.ne_of_gt hp), h0 p hp.le]; rfl

theorem mul_nil_right (a : Mag) : mul a [] = a := by cases a <;> simp [mul]
theorem mul_nil_left (b : Mag) : mul [] b = b := by simp [mul]

/-- `PackProduct`, for arbitrary lists. -/
theorem exp_mul (a b : Mag) (p : Nat) : exp (mul a b) p = exp a p + exp b p := by
  fun_induction mul a b with
  | case1 b => simp
  | case2 a _ => simp
  | case3 b1 e1 t1 b2 e2 t2 h ih => simp only [exp_cons] at ih ⊢; omega
  | case4 b1 e1 t1 b2 e2 t2 h1 h2 ih => simp only [exp_cons] at ih ⊢; omega
  | case5 b1 e1 t1 b2 e2 t2 h1 h2 h3 ih =>
    obtain rfl : b1 = b2 := by omega
    simp only [exp_cons] at ih ⊢
    split <;> omega
  | case6 b1 e1 t1 b2 e2 t2 h1 h2 h3 ih =>
    obtain rfl : b1 = b2 := by omega
    simp only [exp_cons] at ih ⊢
    split <;> omega

theorem ok_mul {a b : Mag} (ha : Ok a) (hb : Ok b) : Ok (mul a b) := by
  fun_induction mul a b with
  | case1 b => exact hb
  | case2 a _ => exact ha
  | case3 b1 e1 t1 b2 e2 t2 h ih =>
    obtain ⟨hp, he, ht, h0⟩ := ok_cons_iff.1 ha
    exact ok_cons_iff.2 ⟨hp, he, ih ht hb, fun p hle => by
      rw [exp_mul, h0 p hle, hb.exp_eq_zero_of_lt (by omega)]; rfl⟩
  | case4 b1 e1 t1 b2 e2 t2 h1 h2 ih =>
    obtain ⟨hp, he, ht, h0⟩ := ok_cons_iff.1 hb
    exact ok_cons_iff.2 ⟨hp, he, ih ht ha, fun p hle => by
      rw [exp_mul, h0 p hle, ha.exp_eq_zero_of_lt (by omega)]; rfl⟩
  | case5 b1 e1 t1 b2 e2 t2 h1 h2 h3 ih => exact ih ha.tail hb.tail
  | case6 b1 e1 t1 b2 e2 t2 h1 h2 h3 ih =>
    obtain rfl : b1 = b2 := by omega
    obtain ⟨hp, _, ht1, h01⟩ := ok_cons_iff.1 ha
    obtain ⟨_, _, ht2, h02⟩ := ok_cons_iff.1 hb
    exact ok_cons_iff.2 ⟨hp, h3, ih ht2 ht1, fun p hle => by rw [exp_mul, h01 p hle, h02 p hle]; rfl⟩

theorem exp_pow (m : Mag) (n : Int) (p : Nat) : exp (pow m n) p = exp m p * n := by
  unfold pow
  split
  · subst_vars; simp
  · induction m with
    | nil => simp
    | cons a t ih => obtain ⟨b, e⟩ := a; simp only [List.map_cons, exp_cons, ih]; split <;> ring

theorem exp_inv (m : Mag) (p : Nat) : exp (inv m) p = - exp m p := by
  unfold inv; rw [exp_pow]; ring

theorem ok_pow {m : Mag} (h : Ok m) {n : Int} (hn : n ≠ 0) : Ok (pow m n) := by
  unfold pow
  rw [if_neg hn]
  refine ⟨List.pairwise_map.2 h.sorted, fun a ha => ?_, fun a ha => ?_⟩ <;>
    obtain ⟨x, hx, rfl⟩ := List.mem_map.1 ha
  · exact Int.mul_ne_zero (h.nozero x hx) hn
  · exact h.primes x hx

theorem ok_inv {m : Mag} (h : Ok m) : Ok (inv m) := ok_pow h (by decide)

theorem exp_div (a b : Mag) (p : Nat) : exp (div a b) p = exp a p - exp b p := by
  unfold div; rw [exp_mul, exp_inv]; ring

theorem ok_div {a b : Mag} (ha : Ok a) (hb : Ok b) : Ok (div a b) := ok_mul ha (ok_inv hb)

theorem div_self {m : Mag} (h : Ok m) : div m m = [] :=
  (ok_div h h).ext ok_nil fun p => by rw [exp_div]; simp

theorem div_nil (m : Mag) : div m [] = m := mul_nil_right m

theorem ok_single {b : Nat} {e : Int} (hp : Nat.Prime b) (he : e ≠ 0) : Ok [(b, e)] :=
  ok_cons_iff.2 ⟨hp, he, ok_nil, fun _ _ => rfl⟩

/-- `NumeratorPartT` and `NumeratorT` are two spellings of one function. -/
theorem numPart_eq_numerator (m : Mag) : numPart m = numerator m := by
  induction m with
  | nil => rfl
  | cons a t ih => unfold numPart numerator; rw [ih]; split <;> simp [mul_nil_left]

theorem ok_numerator {m : Mag} (h : Ok m) : Ok (numerator m) := by
  induction m with
  | nil => exact ok_nil
  | cons a t ih =>
    unfold numerator
    refine ok_mul ?_ (ih h.tail)
    split
    · exact ok_single (h.primes _ (List.mem_cons_self ..)) (by omega)
    · exact ok_nil

theorem exp_numerator {m : Mag} (h : Ok m) (p : Nat) : exp (numerator m) p = max (exp m p) 0 := by
  induction m with
  | nil => rfl
  | cons a t ih =>
    obtain ⟨b, e⟩ := a
    obtain ⟨-, -, -, h0⟩ := ok_cons_iff.1 h
    unfold numerator
    rw [exp_mul, ih h.tail, exp_cons]
    by_cases hbp : b = p
    · rw [h0 p hbp.ge]; split <;> simp [hbp] <;> omega
    · split <;> simp [hbp]

theorem ok_negPowers {m : Mag} (h : Ok m) : Ok (negPowers m) := by
  unfold negPowers denPart; rw [numPart_eq_numerator]; exact ok_inv (ok_numerator (ok_inv h))

theorem exp_negPowers {m : Mag} (h : Ok m) (p : Nat) : exp (negPowers m) p = min (exp m p) 0 := by
  unfold negPowers denPart
  rw [exp_inv, numPart_eq_numerator, exp_numerator (ok_inv h), exp_inv]
  omega

theorem exp_prependIfNeg (b : Nat) (e : Int) (m : Mag) (p : Nat) :
    exp (prependIfNeg (b, e) m) p = (if b = p then min e 0 else 0) + exp m p := by
  unfold prependIfNeg
  split
  · rw [exp_cons, min_eq_left (by omega)]
  · rw [min_eq_right (by omega), ite_self, zero_add]

/-- The clause of `CommonMagnitude` for a first base `b` that is below every base of the other pack `c`:
if `r` is right for the tail, prepending `b^e` when `e < 0` is right for the whole. -/
theorem common_step_lt {b : Nat} {e : Int} {t c r : Mag} (h : Ok ((b, e) :: t)) (hc : ∀ p ≤ b, exp c p = 0)
    (hr : Ok r ∧ ∀ p, exp r p = min (exp t p) (exp c p)) :
    Ok (prependIfNeg (b, e) r) ∧ ∀ p, exp (prependIfNeg (b, e) r) p = min (exp ((b, e) :: t) p) (exp c p) := by
  obtain ⟨hp, he, -, h0⟩ := ok_cons_iff.1 h
  constructor
  · unfold prependIfNeg
    split
    · exact ok_cons_iff.2 ⟨hp, he, hr.1, fun p hle => by rw [hr.2, h0 p hle, hc p hle]; rfl⟩
    · exact hr.1
  · intro p
    rw [exp_prependIfNeg, hr.2, exp_cons]
    by_cases hbp : b = p
    · rw [h0 p hbp.ge, hc p hbp.ge, if_pos hbp, if_pos hbp]; omega
    · rw [if_neg hbp, if_neg hbp, zero_add, zero_add]

theorem common_step_eq {b : Nat} {e1 e2 : Int} {t1 t2 r : Mag} (h1 : Ok ((b, e1) :: t1)) (h2 : Ok ((b, e2) :: t2))
    (hr : Ok r ∧ ∀ p, exp r p = min (exp t1 p) (exp t2 p)) :
    Ok ((b, min e1 e2) :: r) ∧
      ∀ p, exp ((b, min e1 e2) :: r) p = min (exp ((b, e1) :: t1) p) (exp ((b, e2) :: t2) p) := by
  obtain ⟨hp, he1, -, h01⟩ := ok_cons_iff.1 h1
  obtain ⟨-, he2, -, h02⟩ := ok_cons_iff.1 h2
  refine ⟨ok_cons_iff.2 ⟨hp, by omega, hr.1, fun p hle => by rw [hr.2, h01 p hle, h02 p hle]; rfl⟩, fun p => ?_⟩
  by_cases hbp : b = p
  · subst hbp; simp only [exp_cons, ↓reduceIte, hr.2, h01 b le_rfl, h02 b le_rfl]; omega
  · simp only [exp_cons, hbp, hr.2, if_false, zero_add]

/-- `CommonMagnitude` keeps packs valid and takes the smaller exponent at every base (a gcd: `[]` is not its
unit).  One induction for both:
that the head stays below the rest is read off the exponents of the recursive call. -/
theorem common_spec {a b : Mag} (ha : Ok a) (hb : Ok b) :
    Ok (common a b) ∧ ∀ p, exp (common a b) p = min (exp a p) (exp b p) := by
  fun_induction common a b with
  | case1 => exact ⟨ok_nil, fun p => rfl⟩
  | case2 h t => exact ⟨ok_negPowers hb, fun p => by rw [exp_negPowers hb, exp_nil, min_comm]⟩
  | case3 h t => exact ⟨ok_negPowers ha, fun p => by rw [exp_negPowers ha, exp_nil]⟩
  | case4 b1 e1 t1 b2 e2 t2 hlt ih =>
    exact common_step_lt ha (fun p hle => hb.exp_eq_zero_of_lt (by omega)) (ih ha.tail hb)
  | case5 b1 e1 t1 b2 e2 t2 h1 hlt ih =>
    exact (common_step_lt hb (fun p hle => ha.exp_eq_zero_of_lt (by omega)) (ih hb.tail ha)).imp_right
      fun h p => (h p).trans (min_comm _ _)
  | case6 b1 e1 t1 b2 e2 t2 h1 h2 h3 ih =>
    obtain rfl : b1 = b2 := by omega
    have := common_step_eq ha hb (ih ha.tail hb.tail)
    rwa [min_eq_left (by omega)] at this
  | case7 b1 e1 t1 b2 e2 t2 h1 h2 h3 ih =>
    obtain rfl : b1 = b2 := by omega
    have := common_step_eq ha hb (ih ha.tail hb.tail)
    rwa [min_eq_right (by omega)] at this

theorem ok_common {a b : Mag} (ha : Ok a) (hb : Ok b) : Ok (common a b) := (common_spec ha hb).1

theorem exp_common {a b : Mag} (ha : Ok a) (hb : Ok b) (p : Nat) :
    exp (common a b) p = min (exp a p) (exp b p) := (common_spec ha hb).2 p

theorem isInteger_iff {m : Mag} (h : Ok m) : isInteger m = true ↔ ∀ p, 0 ≤ exp m p := by
  simp only [isInteger, List.all_eq_true, decide_eq_true_eq]
  constructor
  · intro hall p
    by_cases hz : exp m p = 0
    · omega
    · obtain ⟨x, hx, rfl⟩ := base_of_exp_ne_zero hz
      rw [exp_of_mem h.sorted hx]; have := hall x hx; omega
  · intro hp x hx
    have h1 := hp x.1
    rw [exp_of_mem h.sorted hx] at h1
    have h2 := h.nozero x hx
    omega

theorem natValue_spec {m : Mag} (h : Ok m) (hi : isInteger m = true) :
    natValue m ≠ 0 ∧ ∀ p, ((natValue m).factorization p : Int) = exp m p := by
  induction m with
  | nil => simp [natValue]
  | cons a t ih =>
    obtain ⟨b, e⟩ := a
    obtain ⟨hb, -, ht, -⟩ := ok_cons_iff.1 h
    simp only [isInteger, List.all_cons, Bool.and_eq_true, decide_eq_true_eq] at hi
    obtain ⟨ih0, ih1⟩ := ih ht hi.2
    have hpow : b ^ e.toNat ≠ 0 := pow_ne_zero _ hb.ne_zero
    refine ⟨Nat.mul_ne_zero hpow ih0, fun p => ?_⟩
    unfold natValue
    rw [Nat.factorization_mul hpow ih0, Nat.factorization_pow, hb.factorization, exp_cons, ← ih1]
    by_cases hbp : b = p
    · simp [hbp]; omega
    · simp [hbp]

theorem common_scale_integer {a b : Mag} (ha : Ok a) (hb : Ok b) :
    (div a (common a b)).isInteger = true ∧ (div b (common a b)).isInteger = true := by
  have hc := ok_common ha hb
  rw [isInteger_iff (ok_div ha hc), isInteger_iff (ok_div hb hc)]
  constructor <;> intro q <;> rw [exp_div, exp_common ha hb] <;> omega

theorem natValue_pos {m : Mag} (hm : Ok m) (hi : m.isInteger = true) : 0 < m.natValue :=
  Nat.pos_of_ne_zero (natValue_spec hm hi).1

theorem eq_nil_of_natValue_one {m : Mag} (hm : Ok m) (hi : m.isInteger = true) (h1 : m.natValue ≤ 1) : m = [] := by
  have hone : m.natValue = 1 := by have := natValue_pos hm hi; omega
  refine hm.ext ok_nil fun p => ?_
  rw [← (natValue_spec hm hi).2 p, hone]
  simp

end Mag

theorem spfAux_spec (fuel : Nat) : ∀ (k n : Nat), 0 < n → 2 ≤ k → k ≤ n.minFac → n + 2 ≤ fuel + k → spfAux fuel k n = n.minFac := by
  induction fuel with
  | zero =>
    intro k n hn hk hkm hf
    have := Nat.minFac_le hn
    omega
  | succ f ih =>
    intro k n hn hk hkm hf
    unfold spfAux
    split
    · -- `n < k²` with no factor below `k`: `n` is prime
      rename_i hsq
      by_contra hne
      have hnp : ¬ Nat.Prime n := fun hp => hne hp.minFac_eq.symm
      have := Nat.minFac_sq_le_self hn hnp
      have : k * k ≤ n.minFac ^ 2 := by rw [pow_two]; exact Nat.mul_le_mul hkm hkm
      omega
    · split
      · rename_i hmod
        exact le_antisymm hkm (Nat.minFac_le_of_dvd hk (Nat.dvd_of_mod_eq_zero hmod))
      · rename_i hmod
        refine ih (k + 1) n hn (by omega) (Nat.lt_of_le_of_ne hkm fun h => hmod ?_) (by omega)
        exact Nat.mod_eq_zero_of_dvd (h ▸ Nat.minFac_dvd n)

theorem spf_eq_minFac {n : Nat} (hn : 2 ≤ n) : spf n = n.minFac :=
  spfAux_spec n 2 n (by omega) le_rfl (Nat.minFac_prime (by omega)).two_le (by omega)

theorem multAux_spec {f : Nat} (hf : Nat.Prime f) (fuel : Nat) :
    ∀ n, 0 < n → n ≤ fuel → multAux fuel f n = n.factorization f := by
  induction fuel with
  | zero => intro n h1 h2; omega
  | succ k ih =>
    intro n hpos hle
    unfold multAux
    split
    · rename_i hmod
      obtain ⟨q, rfl⟩ := Nat.dvd_of_mod_eq_zero hmod
      have hq : 0 < q := Nat.pos_of_mul_pos_left hpos
      have hlt : q < f * q := (Nat.lt_mul_iff_one_lt_left hq).2 hf.one_lt
      rw [Nat.mul_div_cancel_left q hf.pos, ih q hq (by omega), Nat.factorization_mul hf.ne_zero hq.ne',
        hf.factorization]
      simp [add_comm]
    · rename_i hmod
      exact (Nat.factorization_eq_zero_of_not_dvd fun hd => hmod (Nat.mod_eq_zero_of_dvd hd)).symm

theorem multiplicity_eq {f n : Nat} (hf : Nat.Prime f) (hn : 0 < n) : multiplicity f n = n.factorization f :=
  multAux_spec hf n n hn (le_refl n)

theorem factorizeAux_spec (fuel : Nat) : ∀ n, 0 < n → n ≤ fuel →
    Mag.Ok (factorizeAux fuel n) ∧ ∀ p, Mag.exp (factorizeAux fuel n) p = n.factorization p := by
  induction fuel with
  | zero => intro n h1 h2; omega
  | succ k ih =>
    intro n hpos hle
    unfold factorizeAux
    split
    · obtain rfl : n = 1 := by omega
      exact ⟨Mag.ok_nil, fun p => by simp⟩
    · -- the model's `base` and `power` are the least prime factor and its exponent; `remainder` is smaller
      have hprime : Nat.Prime n.minFac := Nat.minFac_prime (by omega)
      have hfpos : 0 < n.factorization n.minFac := hprime.factorization_pos_of_dvd hpos.ne' (Nat.minFac_dvd n)
      have hrlt : n / n.minFac ^ n.factorization n.minFac < n :=
        Nat.div_lt_self hpos (Nat.one_lt_pow hfpos.ne' hprime.one_lt)
      obtain ⟨ihok, ihexp⟩ := ih _ (Nat.ordCompl_pos n.minFac hpos.ne') (by omega)
      simp only [spf_eq_minFac (by omega : 2 ≤ n), multiplicity_eq hprime hpos]
      refine ⟨Mag.ok_mul (Mag.ok_single hprime (by omega)) ihok, fun p => ?_⟩
      rw [Mag.exp_mul, ihexp, Nat.factorization_ordCompl, Mag.exp_cons, Mag.exp_nil, Finsupp.erase_apply]
      by_cases hp : p = n.minFac
      · simp [hp]
      · simp [hp, Ne.symm hp]

/-- `m` is the magnitude of the positive rational `a / b`.  Everything the property needs to know about a
pack — whether it is an integer, its value, its numerator and denominator, the common magnitude —
is read off `a` and `b`. -/
structure Mag.IsRatio (m : Mag) (a b : Nat) : Prop where
  ok : m.Ok
  num_ne : a ≠ 0
  den_ne : b ≠ 0
  exp : ∀ q, m.exp q = a.factorization q - b.factorization q

-- In this namespace `exp`, `div`, `inv`, `numerator`, `denominator`, `natValue`, `common`, `isInteger_iff` are the
-- `IsRatio` items below: the functions on packs must be written `Mag.div m m'`, `m.exp q`.
namespace Mag.IsRatio
variable {m m' : Mag} {a b c d : Nat}

theorem unique (h : m.IsRatio a b) (h' : m'.IsRatio a b) : m = m' :=
  h.ok.ext h'.ok fun q => by rw [h.exp, h'.exp]

theorem div (h : m.IsRatio a b) (h' : m'.IsRatio c d) : (Mag.div m m').IsRatio (a * d) (b * c) :=
  ⟨ok_div h.ok h'.ok, Nat.mul_ne_zero h.num_ne h'.den_ne, Nat.mul_ne_zero h.den_ne h'.num_ne, fun q => by
    rw [exp_div, h.exp, h'.exp, Nat.factorization_mul h.num_ne h'.den_ne, Nat.factorization_mul h.den_ne h'.num_ne]
    simp only [Finsupp.coe_add, Pi.add_apply]
    omega⟩

theorem isInteger_iff (h : m.IsRatio a b) : m.isInteger = true ↔ b ∣ a := by
  rw [Mag.isInteger_iff h.ok, ← Nat.factorization_le_iff_dvd h.den_ne h.num_ne]
  exact forall_congr' fun q => by rw [h.exp]; omega

theorem natValue (h : m.IsRatio a b) (hd : b ∣ a) : m.natValue = a / b := by
  obtain ⟨h0, hf⟩ := natValue_spec h.ok (h.isInteger_iff.2 hd)
  have hle := (Nat.factorization_le_iff_dvd h.den_ne h.num_ne).2 hd
  refine Nat.eq_of_factorization_eq h0 (Nat.div_pos (Nat.le_of_dvd (Nat.pos_of_ne_zero h.num_ne) hd)
    (Nat.pos_of_ne_zero h.den_ne)).ne' fun q => ?_
  have hfq := hf q
  rw [h.exp] at hfq
  have hleq := hle q
  rw [Nat.factorization_div hd, Finsupp.coe_tsub, Pi.sub_apply]
  omega

theorem numerator (h : m.IsRatio a b) (hc : Nat.Coprime a b) : (Mag.numerator m).IsRatio a 1 :=
  ⟨ok_numerator h.ok, h.num_ne, one_ne_zero, fun q => by
    rw [exp_numerator h.ok, h.exp]; rcases hc.factorization_eq_zero_or q with e | e <;> simp [e]⟩

theorem inv (h : m.IsRatio a b) : (Mag.inv m).IsRatio b a :=
  ⟨ok_inv h.ok, h.den_ne, h.num_ne, fun q => by rw [exp_inv, h.exp]; omega⟩

theorem denominator (h : m.IsRatio a b) (hc : Nat.Coprime a b) : (Mag.denominator m).IsRatio b 1 :=
  h.inv.numerator hc.symm

theorem isInteger_and_natValue (h : m.IsRatio a 1) : m.isInteger = true ∧ m.natValue = a :=
  ⟨h.isInteger_iff.2 (one_dvd a), by rw [h.natValue (one_dvd a), Nat.div_one]⟩

/-- `CommonMagnitude` of two fractions in lowest terms: gcd of the numerators over lcm of the
denominators. -/
theorem common (h : m.IsRatio a b) (h' : m'.IsRatio c d) (hc : Nat.Coprime a b) (hc' : Nat.Coprime c d) :
    (Mag.common m m').IsRatio (Nat.gcd a c) (Nat.lcm b d) :=
  ⟨ok_common h.ok h'.ok, Nat.gcd_ne_zero_left h.num_ne, Nat.lcm_ne_zero h.den_ne h'.den_ne, fun q => by
    rw [exp_common h.ok h'.ok, h.exp, h'.exp, Nat.factorization_gcd h.num_ne h'.num_ne,
      Nat.factorization_lcm h.den_ne h'.den_ne, Finsupp.inf_apply, Finsupp.sup_apply]
    rcases hc.factorization_eq_zero_or q with e | e <;> rcases hc'.factorization_eq_zero_or q with e' | e' <;>
      simp [e, e']⟩

end Mag.IsRatio

theorem isRatio_magNat {n : Nat} (hn : 0 < n) : (magNat n).IsRatio n 1 :=
  have h := factorizeAux_spec n n hn le_rfl
  ⟨h.1, hn.ne', one_ne_zero, fun q => by simp [magNat, h.2]⟩

def Period.Pos (p : Period) : Prop := 0 < p.num ∧ 0 < p.den

theorem Period.norm_pos {p : Period} (hp : p.Pos) : p.norm.Pos := by
  have hg : 0 < Nat.gcd p.num p.den := Nat.gcd_pos_of_pos_left _ hp.1
  exact ⟨Nat.div_pos (Nat.gcd_le_left _ hp.1) hg, Nat.div_pos (Nat.gcd_le_right _ hp.2) hg⟩

theorem Period.norm_coprime {p : Period} (hp : p.Pos) : Nat.Coprime p.norm.num p.norm.den :=
  Nat.coprime_div_gcd_div_gcd (Nat.gcd_pos_of_pos_left _ hp.1)

theorem Period.norm_of_coprime {p : Period} (h : Nat.Coprime p.num p.den) : p.norm = p := by
  unfold Period.norm
  have : Nat.gcd p.num p.den = 1 := h
  simp [this]

theorem Period.norm_den_eq_one_iff {X Y : Nat} (hY : 0 < Y) : (Period.norm ⟨X, Y⟩).den = 1 ↔ Y ∣ X := by
  show Y / Nat.gcd X Y = 1 ↔ Y ∣ X
  rw [← Nat.gcd_eq_right_iff_dvd]
  exact ⟨Nat.eq_of_dvd_of_div_eq_one (Nat.gcd_dvd_right X Y), fun h => by rw [h, Nat.div_self hY]⟩

theorem Period.norm_num_of_dvd {X Y : Nat} (h : Y ∣ X) : (Period.norm ⟨X, Y⟩).num = X / Y := by
  show X / Nat.gcd X Y = X / Y
  rw [Nat.gcd_eq_right_iff_dvd.2 h]

/-- `ratioMag p` is the magnitude of the reduced `Period::num / Period::den`. -/
theorem isRatio_ratioMag {p : Period} (hp : p.Pos) : (ratioMag p).IsRatio p.norm.num p.norm.den := by
  have h := (isRatio_magNat (Period.norm_pos hp).1).div (isRatio_magNat (Period.norm_pos hp).2)
  rwa [mul_one, one_mul] at h

theorem ok_ratioMag {p : Period} (hp : p.Pos) : Mag.Ok (ratioMag p) := (isRatio_ratioMag hp).ok

theorem ratioMag_norm {p : Period} (hp : p.Pos) : ratioMag p.norm = ratioMag p := by
  unfold ratioMag; rw [Period.norm_of_coprime (Period.norm_coprime hp)]

/-- The numerator and denominator of the corresponding unit's magnitude are integer magnitudes with
values `Period::num`, `Period::den`. -/
theorem ratioMag_value {p : Period} (hp : p.Pos) :
    (Mag.numerator (ratioMag p)).isInteger = true ∧ (Mag.numerator (ratioMag p)).natValue = p.norm.num ∧
    (Mag.denominator (ratioMag p)).isInteger = true ∧ (Mag.denominator (ratioMag p)).natValue = p.norm.den :=
  have h := isRatio_ratioMag hp
  have hc := Period.norm_coprime hp
  ⟨(h.numerator hc).isInteger_and_natValue.1, (h.numerator hc).isInteger_and_natValue.2,
   (h.denominator hc).isInteger_and_natValue.1, (h.denominator hc).isInteger_and_natValue.2⟩

theorem coprime_gcd_lcm {a b c d : Nat} (h : Nat.Coprime a b) (h' : Nat.Coprime c d) :
    Nat.Coprime (Nat.gcd a c) (Nat.lcm b d) :=
  Nat.Coprime.coprime_dvd_right (Nat.lcm_dvd_mul _ _) (Nat.Coprime.mul_right
    (h.coprime_dvd_left (Nat.gcd_dvd_left _ _)) (h'.coprime_dvd_left (Nat.gcd_dvd_right _ _)))

theorem norm_gcd_lcm {p1 p2 : Period} (h1 : p1.Pos) (h2 : p2.Pos) :
    (Period.mk (Nat.gcd p1.norm.num p2.norm.num) (Nat.lcm p1.norm.den p2.norm.den)).norm =
      ⟨Nat.gcd p1.norm.num p2.norm.num, Nat.lcm p1.norm.den p2.norm.den⟩ :=
  Period.norm_of_coprime (coprime_gcd_lcm (Period.norm_coprime h1) (Period.norm_coprime h2))

theorem chronoCommonPeriod_eq {p1 p2 : Period} (h1 : p1.Pos) (h2 : p2.Pos) :
    chronoCommonPeriod p1 p2 = ⟨Nat.gcd p1.norm.num p2.norm.num, Nat.lcm p1.norm.den p2.norm.den⟩ := by
  have hl : p1.norm.den / Nat.gcd p1.norm.den p2.norm.den * p2.norm.den = Nat.lcm p1.norm.den p2.norm.den :=
    Nat.div_mul_right_comm (Nat.gcd_dvd_left _ _) _
  unfold chronoCommonPeriod
  simp only [hl]
  exact norm_gcd_lcm h1 h2

theorem chronoCommonPeriod_pos {p1 p2 : Period} (h1 : p1.Pos) (h2 : p2.Pos) : (chronoCommonPeriod p1 p2).Pos := by
  rw [chronoCommonPeriod_eq h1 h2]
  exact ⟨Nat.gcd_pos_of_pos_left _ (Period.norm_pos h1).1, Nat.lcm_pos (Period.norm_pos h1).2 (Period.norm_pos h2).2⟩

theorem isRatio_common {p1 p2 : Period} (h1 : p1.Pos) (h2 : p2.Pos) :
    (Mag.common (ratioMag p1) (ratioMag p2)).IsRatio
      (Nat.gcd p1.norm.num p2.norm.num) (Nat.lcm p1.norm.den p2.norm.den) :=
  (isRatio_ratioMag h1).common (isRatio_ratioMag h2) (Period.norm_coprime h1) (Period.norm_coprime h2)

/-- C17_common_period (pack form).  `CommonMagnitude` of the two corresponding units is the
magnitude of chrono's common period: the very same pack. -/
theorem common_eq_ratioMag {p1 p2 : Period} (h1 : p1.Pos) (h2 : p2.Pos) :
    Mag.common (ratioMag p1) (ratioMag p2) = ratioMag (chronoCommonPeriod p1 p2) := by
  have h := isRatio_ratioMag (chronoCommonPeriod_pos h1 h2)
  rw [chronoCommonPeriod_eq h1 h2] at h ⊢
  rw [norm_gcd_lcm h1 h2] at h
  exact (isRatio_common h1 h2).unique h

/-- The magnitude quotient of two period units is an integer exactly when `std::ratio_divide` of
the periods has denominator 1, and then its value is that ratio's numerator. -/
theorem scaleFactor_spec {p c : Period} (hp : p.Pos) (hc : c.Pos) :
    ((Mag.div (ratioMag p) (ratioMag c)).isInteger = true ↔ (ratioDivide p c).den = 1) ∧
    ((Mag.div (ratioMag p) (ratioMag c)).isInteger = true →
      (Mag.div (ratioMag p) (ratioMag c)).natValue = (ratioDivide p c).num) := by
  have h := (isRatio_ratioMag hp).div (isRatio_ratioMag hc)
  rw [h.isInteger_iff]
  exact ⟨(Period.norm_den_eq_one_iff (Nat.pos_of_ne_zero h.den_ne)).symm,
    fun hd => (h.natValue hd).trans (Period.norm_num_of_dvd hd).symm⟩

theorem canScaleThreshold_eq (t : IntTy) (ht : (2147 : Int) ≤ t.hi) {sf : Mag} (hok : Mag.Ok sf) (hi : sf.isInteger = true) :
    canScaleThreshold t sf = decide (2147 * (sf.natValue : Int) ≤ t.hi) := by
  have hpos := Mag.natValue_pos hok hi
  simp only [canScaleThreshold, overflowThreshold, getValueInt, ht, hi, decide_true, Bool.true_and]
  by_cases hone : sf.natValue ≤ 1
  · have h1 : sf.natValue = 1 := by omega
    simp [h1, ht]
  · rw [if_neg hone]
    by_cases hfit : (sf.natValue : Int) ≤ t.hi
    · -- the factor fits: `max / SF ≥ 2147` is `2147 · SF ≤ max`
      simp only [hfit, decide_true, if_true]
      exact decide_eq_decide.2 (thr_pos t.hi _ 2147 (by omega) (by omega))
    · simp only [hfit, decide_false, Bool.false_eq_true, if_false]
      exact (decide_eq_false (by omega)).symm

/-- `CoreImplicitConversionPolicy` in closed form: a floating target takes everything; an integral one
takes integral sources across an integer factor `k` with `2147·k ≤ max`. -/
theorem corePolicy_eq (rep src : Rep) {sf : Mag} (hok : Mag.Ok sf) :
    corePolicy rep sf src = match rep.intTy? with
      | none => true
      | some t => src.isIntegral && sf.isInteger && decide (2147 * (sf.natValue : Int) ≤ t.hi) := by
  unfold corePolicy
  cases hr : rep.intTy? with
  | none => simp
  | some t =>
    have ht : (2147 : Int) ≤ t.hi := by cases rep <;> cases hr <;> decide
    split
    · rename_i h
      obtain ⟨rfl, rfl⟩ := h
      simp [Rep.isIntegral, hr, Mag.isInteger, Mag.natValue, ht]
    · cases hi : sf.isInteger with
      | false => simp
      | true => simp [canScaleThreshold_eq t ht hok hi]

/-- On the four modelled reps the integer-promotion carve-out admits nothing that the core policy refuses. -/
theorem permitImplicitFrom_eq (tgt src : Mag) (tr sr : Rep) (hok : Mag.Ok (Mag.div src tgt)) :
    permitImplicitFrom tgt tr src sr = corePolicy tr (Mag.div src tgt) sr := by
  unfold permitImplicitFrom
  simp only [Bool.or_eq_left_iff_imp, carveOut, Bool.and_eq_true, decide_eq_true_eq]
  rintro ⟨⟨hnil, htr⟩, hsr⟩
  rw [corePolicy_eq _ _ hok, hnil]
  cases tr <;> cases htr <;> simp [Rep.intTy?, hsr, Mag.isInteger, Mag.natValue] <;> decide

/-- Both libraries scale each operand by the same integer: the unit's ratio to the common unit is an integer
magnitude whose value is the numerator of `std::ratio_divide<Pᵢ, CommonPeriod>`, whose denominator is 1. -/
theorem common_scale {p1 p2 : Period} (h1 : p1.Pos) (h2 : p2.Pos) :
    (Mag.div (ratioMag p1) (Mag.common (ratioMag p1) (ratioMag p2))).isInteger = true ∧
    (Mag.div (ratioMag p1) (Mag.common (ratioMag p1) (ratioMag p2))).natValue = (ratioDivide p1 (chronoCommonPeriod p1 p2)).num ∧
    (ratioDivide p1 (chronoCommonPeriod p1 p2)).den = 1 ∧
    (Mag.div (ratioMag p2) (Mag.common (ratioMag p1) (ratioMag p2))).isInteger = true ∧
    (Mag.div (ratioMag p2) (Mag.common (ratioMag p1) (ratioMag p2))).natValue = (ratioDivide p2 (chronoCommonPeriod p1 p2)).num ∧
    (ratioDivide p2 (chronoCommonPeriod p1 p2)).den = 1 := by
  have hcp := chronoCommonPeriod_pos h1 h2
  obtain ⟨hk1, hk2⟩ := Mag.common_scale_integer (ok_ratioMag h1) (ok_ratioMag h2)
  have s1 := scaleFactor_spec h1 hcp
  have s2 := scaleFactor_spec h2 hcp
  rw [← common_eq_ratioMag h1 h2] at s1 s2
  exact ⟨hk1, s1.2 hk1, s1.1.1 hk1, hk2, s2.2 hk2, s2.1.1 hk2⟩

end Au.Chrono
