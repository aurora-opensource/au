import AuProofs.Lemmas.PackOrder
import AuModel.UnitOrder

/-! # `U.libLt` (`AuModel.UnitOrder`) is a strict weak order

`U.libLt` — the six keys of `InOrderFor<UnitProduct, A, B>` (unit_of_measure.hh:1037-1045), with the recursive
`OrderAsUnitProduct` key — is a strict weak order for EVERY environment of named units (any dimensions, magnitudes,
origins) whose named units have avoidance class 0 or 2.  Nothing about tie-freeness is needed for that; tie-freeness
(two distinct units never tie on all six keys — the condition the library's "Broken strict total ordering"
`static_assert` checks per instantiated pair) is exactly what upgrades it to a strict total order
(`libLt_strictTotal_of_tieFree`). -/
namespace Au
open Pack

/-- `OrderByUnitAvoidance<A, B>`. -/
def kAvoid (oe : OrdEnv) (a b : U) : Bool := decide (a.avoidance oe < b.avoidance oe)
/-- `OrderByDim<A, B>`. -/
def kDim (oe : OrdEnv) (a b : U) : Bool := packLt dimLt (a.dimOf oe.toEnv) (b.dimOf oe.toEnv)
/-- `OrderByMag<A, B>`. -/
def kMag (oe : OrdEnv) (a b : U) : Bool := packLt MagBase.lt (a.magOf oe.toEnv) (b.magOf oe.toEnv)
/-- `OrderByOrigin<A, B>`: `OriginDisplacement<A, B>` = origin(B) − origin(A) is negative, hence the reversed comparison. -/
def kOrigin (oe : OrdEnv) (a b : U) : Bool := decide (b.originOf oe < a.originOf oe)
/-- `OrderAsUnitProduct<A, B>`. -/
def kProd (oe : OrdEnv) (a b : U) : Bool :=
  match a, b with
  | .prod p1, .prod p2 => if (U.prod p1).isUnitProduct && (U.prod p2).isUnitProduct then UL.libLt oe p1 p2 else false
  | _, _ => false

theorem kAvoid_strictWeak (oe : OrdEnv) : StrictWeak (kAvoid oe) :=
  natLt_strictTotal.strictWeak.comap (U.avoidance oe)
theorem kDim_strictWeak (oe : OrdEnv) : StrictWeak (kDim oe) :=
  orderByDim_strictTotal.strictWeak.comap fun u : U => u.dimOf oe.toEnv
theorem kMag_strictWeak (oe : OrdEnv) : StrictWeak (kMag oe) :=
  orderByMag_strictTotal.strictWeak.comap fun u : U => u.magOf oe.toEnv

/-- `U.libLt` is literally `LexicographicTotalOrdering` over the six keys. -/
theorem libLt_eq_lexLt (oe : OrdEnv) (a b : U) :
    U.libLt oe a b = lexLt [kAvoid oe, kDim oe, kMag oe, U.scaleFactorLt, kOrigin oe, kProd oe] a b := by
  rw [U.libLt.eq_def]
  simp only [↓ lexLt_singleton, lexLt, kAvoid, kDim, kMag, kOrigin, decide_eq_true_eq]
  rfl

/-- The model's two transcriptions of `InStandardPackOrder` (`packLt`, `UL.libLt`) agree. -/
theorem UL.libLt_eq_packLt (oe : OrdEnv) : ∀ p q : UL, UL.libLt oe p q = packLt (U.libLt oe) p.toList q.toList
  | .nil, .nil => by rw [UL.libLt]; rfl
  | .nil, .cons .. => by rw [UL.libLt]; rfl
  | .cons .., .nil => by rw [UL.libLt]; rfl
  | .cons u1 q1 t1, .cons u2 q2 t2 => by rw [UL.libLt, UL.toList, UL.toList, packLt, UL.libLt_eq_packLt oe t1 t2]

theorem packLt_any_nil {β : Type} (lt : β → β → Bool) (p : Pack β) : packLt lt p [] = false := by
  cases p <;> rfl

theorem UL.libLt_any_nil (oe : OrdEnv) (p : UL) : UL.libLt oe p .nil = false := by
  rw [UL.libLt_eq_packLt]; exact packLt_any_nil _ _

/-! `OrderByScaleFactor` and `OrderAsUnitProduct` answer `false` unless both operands are `ScaledUnit`s, resp. `UnitProduct`s,
so on all units they are not strict weak orders (a scaled unit ties with a named one, which ties with a smaller scaled
one).  They are only consulted when the avoidance classes tie, and there they agree with `kScaleTot` and `kProdTot`, the pack
order pulled back along `scaleKey` and `prodKey`. -/
section
variable (oe : OrdEnv)

def scaleKey : U → Mag
  | .scaled _ m => m
  | _ => []
def prodKey (a : U) : Pack U := if a.isUnitProduct then a.asPack else []
def kScaleTot (a b : U) : Bool := packLt MagBase.lt (scaleKey a) (scaleKey b)
def kProdTot (a b : U) : Bool := packLt (U.libLt oe) (prodKey a) (prodKey b)

/-- Named units are named structs (class 0) or bare `UnitImpl`s (class 2). -/
def OrdEnv.NamedClasses (oe : OrdEnv) : Prop := ∀ n, oe.avoid n = 0 ∨ oe.avoid n = 2

def U.isScaled : U → Bool
  | .scaled _ _ => true
  | _ => false

theorem U.isScaled_eq_avoidance (hav : oe.NamedClasses) (a : U) : a.isScaled = decide (a.avoidance oe = 3) := by
  cases a with
  | named n => rcases hav n with h | h <;> simp [U.avoidance, U.isScaled, h]
  | prod ps => simp only [U.avoidance, U.isScaled]; split <;> (try split) <;> rfl
  | _ => rfl

theorem U.isUnitProduct_eq_avoidance (hav : oe.NamedClasses) (a : U) : a.isUnitProduct = decide (a.avoidance oe = 1) := by
  cases a with
  | named n => rcases hav n with h | h <;> simp [U.avoidance, U.isUnitProduct, h]
  | prod ps => simp only [U.avoidance, U.isUnitProduct]; split <;> (try split) <;> simp [*]
  | _ => rfl

theorem scaleFactorLt_of_not_scaled_right (a b : U) (h : b.isScaled = false) : U.scaleFactorLt a b = false := by
  cases a <;> cases b <;> first | rfl | cases h

theorem U.scaleFactorLt_eq_kScaleTot (a b : U) (h : a.isScaled = b.isScaled) : U.scaleFactorLt a b = kScaleTot a b := by
  cases a <;> cases b <;> first | rfl | cases h

theorem kProd_eq_packLt (a b : U) :
    kProd oe a b = (a.isUnitProduct && b.isUnitProduct && packLt (U.libLt oe) a.asPack b.asPack) := by
  cases a <;> cases b <;> simp [kProd, U.isUnitProduct, U.asPack, UL.libLt_eq_packLt]

theorem kProd_eq_kProdTot (a b : U) (h : a.isUnitProduct = b.isUnitProduct) : kProd oe a b = kProdTot oe a b := by
  rw [kProd_eq_packLt, kProdTot, prodKey, prodKey, ← h]
  cases a.isUnitProduct <;> rfl

theorem libLt_eq_lexLt_tot (hav : oe.NamedClasses) (a b : U) :
    U.libLt oe a b = lexLt [kAvoid oe, kDim oe, kMag oe, kScaleTot, kOrigin oe, kProdTot oe] a b := by
  rw [libLt_eq_lexLt]
  refine lexLt_cons_congr fun h1 h2 => ?_
  have e : a.avoidance oe = b.avoidance oe := by
    simp only [kAvoid, decide_eq_false_iff_not] at h1 h2; omega
  have es : a.isScaled = b.isScaled := by rw [U.isScaled_eq_avoidance oe hav, U.isScaled_eq_avoidance oe hav, e]
  have ep : a.isUnitProduct = b.isUnitProduct := by rw [U.isUnitProduct_eq_avoidance oe hav, U.isUnitProduct_eq_avoidance oe hav, e]
  simp only [lexLt, U.scaleFactorLt_eq_kScaleTot a b es, U.scaleFactorLt_eq_kScaleTot b a es.symm, kProd_eq_kProdTot oe a b ep, kProd_eq_kProdTot oe b a ep.symm]

theorem UL.sizeOf_lt_of_mem : ∀ (ps : UL) (x : U × Rat), x ∈ ps.toList → sizeOf x.1 < sizeOf ps
  | .cons u q t, x, hx => by
    rw [UL.toList, List.mem_cons] at hx
    rcases hx with rfl | hx
    · simp only [UL.cons.sizeOf_spec]; omega
    · have := UL.sizeOf_lt_of_mem t x hx; simp only [UL.cons.sizeOf_spec]; omega

theorem prodKey_lt (a : U) (x : U × Rat) (hx : x ∈ prodKey a) : sizeOf x.1 < sizeOf a := by
  cases a with
  | prod ps =>
    have hx : x ∈ ps.toList := by unfold prodKey at hx; split at hx; exact hx; cases hx
    have := UL.sizeOf_lt_of_mem ps x hx; simp only [U.prod.sizeOf_spec]; omega
  | _ => cases hx

/-- **The library's unit order is a strict weak order**, for every environment of named units (with avoidance class 0 or 2). -/
theorem libLt_strictWeak (hav : oe.NamedClasses) : StrictWeak (U.libLt oe) := by
  refine (SWOn.of_measure (S := fun _ => True) sizeOf fun n ih => ?_).strictWeak
  rw [funext fun a => funext (libLt_eq_lexLt_tot oe hav a)]
  -- the last key compares the packs of two `UnitProduct`s by `packLt (U.libLt oe)`, and their bases are smaller units
  exact .lexCons ((kAvoid_strictWeak oe).on _) <| .lexCons ((kDim_strictWeak oe).on _) <|
    .lexCons ((kMag_strictWeak oe).on _) <|
    .lexCons ((orderByMag_strictTotal.strictWeak.comap scaleKey).on _) <|
    .lexCons ((ratGt_strictTotal.strictWeak.comap (U.originOf oe)).on _) <|
    .lexCons ((packLt_SWOn ih).comap prodKey fun a ha x hx =>
      ⟨by have := prodKey_lt a x hx; have := ha.1; omega, trivial⟩) (.lexNil _)

/-- ... and the same for `InStandardPackOrder` on the packs of unit products. -/
theorem ulLibLt_strictWeak (hav : oe.NamedClasses) : StrictWeak (UL.libLt oe) := by
  rw [funext fun p => funext (UL.libLt_eq_packLt oe p)]
  exact (packLt_strictWeak (libLt_strictWeak oe hav)).comap UL.toList

/-- **It is a strict total order on tie-free collections**: on any set of units in which two units that the
order does not separate are the same unit (what the library's `static_assert` demands of every pair it instantiates),
`U.libLt` is irreflexive, transitive and total. -/
theorem libLt_strictTotal_of_tieFree (hav : oe.NamedClasses) (S : U → Prop)
    (tieFree : ∀ a b, S a → S b → U.libLt oe a b = false → U.libLt oe b a = false → a = b) :
    StrictTotal (fun (x y : {u // S u}) => U.libLt oe x.1 y.1) :=
  ⟨fun a => (libLt_strictWeak oe hav).irrefl a.1, fun a b c => (libLt_strictWeak oe hav).trans a.1 b.1 c.1,
   fun a b h1 h2 => Subtype.ext (tieFree a.1 b.1 a.2 b.2 h1 h2)⟩

end

/-- The library's unit ordering, with any strict-weak tiebreakers after the first three keys, is a
strict total order as soon as no two distinct units tie on every key. -/
theorem unitOrder_strictTotal_of_tieFree (env : Env) (avoidance : U → Nat) (more : List (U → U → Bool))
    (hmore : ∀ k ∈ more, StrictWeak k)
    (tieFree : ∀ a b : U, (∀ k ∈ [ (fun a b : U => decide (avoidance a < avoidance b)),
            (fun a b : U => packLt dimLt (a.dimOf env) (b.dimOf env)),
            (fun a b : U => packLt MagBase.lt (a.magOf env) (b.magOf env)) ] ++ more, k a b = false ∧ k b a = false) → a = b) :
    StrictTotal (lexLt ([ (fun a b : U => decide (avoidance a < avoidance b)),
            (fun a b : U => packLt dimLt (a.dimOf env) (b.dimOf env)),
            (fun a b : U => packLt MagBase.lt (a.magOf env) (b.magOf env)) ] ++ more)) := by
  apply lexLt_strictTotal _ _ tieFree
  intro k hk
  rcases List.mem_append.1 hk with h | h
  · simp only [List.mem_cons, List.not_mem_nil, or_false] at h
    rcases h with rfl | rfl | rfl
    · exact natLt_strictTotal.strictWeak.comap avoidance
    · exact orderByDim_strictTotal.strictWeak.comap fun u : U => u.dimOf env
    · exact orderByMag_strictTotal.strictWeak.comap fun u : U => u.magOf env
  · exact hmore k h

/-- Non-vacuity: an environment of named structs satisfies the hypothesis, and the order separates a scaled unit
from its base and two named units of different dimension. -/
def demoOrdEnv : OrdEnv := { dim := fun n => [((n : Int), 1)], mag := fun _ => [], origin := fun _ => 0, avoid := fun _ => 0 }
example : demoOrdEnv.NamedClasses := fun _ => Or.inl rfl
example : U.libLt demoOrdEnv (.named 1) (.scaled (.named 1) [(.prime 2, 1)]) = true := by rw [libLt_eq_lexLt]; decide
example : U.libLt demoOrdEnv (.named 1) (.named 2) = true ∧ U.libLt demoOrdEnv (.named 2) (.named 1) = false := by rw [libLt_eq_lexLt, libLt_eq_lexLt]; decide
end Au
