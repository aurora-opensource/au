/-
  The value side of C17.  What `castTo`, `mulRep`, `getValueRep` do on a rep with `intTy? = some t` or
  `fmt? = some F`; from these, for one operand, "chrono's `duration_cast` to the common type is clean ⇒ Au's
  `cast_to_common_type` returns the same count" on an integral and on a floating common rep
  (`operand_agree_int`, `operand_agree_flt`, together `operand_agree`); `quantityOp_agree` puts two operands
  and the operation together.
-/
import AuProofs.Lemmas.Chrono
namespace Au.Chrono

theorem Rep.intTy?_facts {r : Rep} {t : IntTy} (h : r.intTy? = some t) :
    t ∈ IntTy.all ∧ t.signed = true ∧ IntTy.i64.lo ≤ t.lo ∧ t.hi ≤ IntTy.i64.hi := by
  cases r <;> cases h <;> decide

theorem Rep.fmt?_of_intTy?_none {r : Rep} (h : r.intTy? = none) : ∃ F, r.fmt? = some F := by
  cases r <;> cases h <;> exact ⟨_, rfl⟩

theorem Rep.common_absorb_left (a b : Rep) : Rep.common (Rep.common a b) a = Rep.common a b := by
  cases a <;> cases b <;> rfl
theorem Rep.common_absorb_right (a b : Rep) : Rep.common (Rep.common a b) b = Rep.common a b := by
  cases a <;> cases b <;> rfl

theorem castTo_int (R : Rounding) (src : Rep) {tgt : Rep} {t : IntTy} (h : tgt.intTy? = some t) (v : Int) :
    castTo R src tgt (.i v) = (.ok (.i (t.wrap v)), decide (t.wrap v ≠ v)) := by
  unfold castTo; rw [h]

@[simp] theorem castTo_i32 (R : Rounding) (r : Rep) (v : Int) :
    castTo R r Rep.i32 (.i v) = (.ok (.i (IntTy.i32.wrap v)), decide (IntTy.i32.wrap v ≠ v)) := castTo_int R r rfl v
@[simp] theorem castTo_i64 (R : Rounding) (r : Rep) (v : Int) :
    castTo R r Rep.i64 (.i v) = (.ok (.i (IntTy.i64.wrap v)), decide (IntTy.i64.wrap v ≠ v)) := castTo_int R r rfl v

theorem mulRep_int (R : Rounding) {r : Rep} {t : IntTy} (h : r.intTy? = some t) (a b : Int) :
    mulRep R r (.i a) (.i b) =
      if t.inRange (a * b) then .ok (.i (a * b)) else .ub "signed overflow in multiplication" := by
  unfold mulRep mulIn
  rw [h]
  simp only [(Rep.intTy?_facts h).2.1, if_true]
  by_cases hin : t.inRange (a * b) <;> simp only [hin, if_true, if_false]

theorem getValueRep_int (R : Rounding) {r : Rep} {t : IntTy} (h : r.intTy? = some t) (m : Mag) :
    getValueRep R r m = .ok (.i (m.natValue : Int)) := by
  unfold getValueRep; rw [h]

@[simp] theorem getValueRep_i32 (R : Rounding) (m : Mag) : getValueRep R Rep.i32 m = .ok (.i (m.natValue : Int)) :=
  getValueRep_int R rfl m
@[simp] theorem getValueRep_i64 (R : Rounding) (m : Mag) : getValueRep R Rep.i64 m = .ok (.i (m.natValue : Int)) :=
  getValueRep_int R rfl m

theorem scaleToCommon_int (R : Rounding) {cr : Rep} {t : IntTy} (h : cr.intTy? = some t) (sf : Mag) (r : Rep)
    (v : Int) (hv : t.inRange v) :
    scaleToCommon R cr sf r (.i v) =
      if t.inRange (v * (sf.natValue : Int)) then .ok (.i (v * (sf.natValue : Int)))
      else .ub "signed overflow in multiplication" := by
  unfold scaleToCommon
  simp only [castTo_int R r h, wrap_of_inRange t (Rep.intTy?_facts h).1 v hv, Res.bind, getValueRep_int R h,
    mulRep_int R h, Mag.natValue, Nat.cast_one, Int.mul_one, hv, if_true]

theorem durationCastCF_int (R : Rounding) {cr r : Rep} {tc tr : IntTy} (hcr : cr.intTy? = some tc) (hr : r.intTy? = some tr)
    (v : Int) (hv : IntTy.i64.inRange v) (cf : Period) (hden : cf.den = 1) (h64 : (cf.num : Int) ≤ i64hi) :
    durationCastCF R cr cf r (.i v) =
      if cf.num = 1 then (.ok (.i (tc.wrap v)), decide (tc.wrap v ≠ v))
      else if IntTy.i64.inRange (v * (cf.num : Int)) then
        (.ok (.i (tc.wrap (v * (cf.num : Int)))), decide (tc.wrap (v * (cf.num : Int)) ≠ v * (cf.num : Int)))
      else (.ub "signed overflow in multiplication", false) := by
  have hcw : IntTy.i64.wrap (cf.num : Int) = (cf.num : Int) := wrap_of_inRange _ (by decide) _
    ⟨le_trans (by decide) (Int.natCast_nonneg _), h64⟩
  have hc3 : Rep.common (Rep.common cr r) Rep.i64 = Rep.i64 := by
    cases cr <;> cases hcr <;> cases r <;> cases hr <;> rfl
  have h64' : Rep.i64.intTy? = some IntTy.i64 := rfl
  unfold durationCastCF
  simp only [hden, ne_eq, not_true_eq_false, if_false, hc3, castTo_int R _ hcr, castTo_int R _ h64',
    wrap_of_inRange _ (by decide) v hv, hcw, Res.bind, mulRep_int R h64']
  by_cases h1 : cf.num = 1
  · simp only [h1, if_true]
  · by_cases hin : IntTy.i64.inRange (v * (cf.num : Int)) <;>
      simp only [h1, hin, if_true, if_false, castTo_int R _ hcr]

theorem operand_agree_int (R : Rounding) {cr r : Rep} {tc tr : IntTy} (hcr : cr.intTy? = some tc) (hr : r.intTy? = some tr)
    (v : Int) (hvc : tc.inRange v)
    (cf : Period) (hden : cf.den = 1) (h64 : (cf.num : Int) ≤ i64hi)
    (sf : Mag) (hsf : sf.natValue = cf.num) (out : Val)
    (h : durationCastCF R cr cf r (.i v) = (.ok out, false)) : scaleToCommon R cr sf r (.i v) = .ok out := by
  obtain ⟨hall, -, hlo, hhi⟩ := Rep.intTy?_facts hcr
  rw [durationCastCF_int R hcr hr v (inRange_mono hlo hhi hvc) cf hden h64] at h
  rw [scaleToCommon_int R hcr sf r v hvc, hsf]
  split at h
  · -- factor 1: chrono only converts the count
    rename_i h1
    rw [wrap_of_inRange tc hall v hvc] at h
    simp only [Prod.mk.injEq, Res.ok.injEq] at h
    rw [h1, Nat.cast_one, Int.mul_one, if_pos hvc, h.1]
  · split at h
    · -- chrono multiplies in `intmax_t`, then narrows: clean means the product is a value of the common rep
      simp only [Prod.mk.injEq, Res.ok.injEq, decide_eq_false_iff_not, ne_eq, not_not] at h
      have hin : tc.inRange (v * (cf.num : Int)) := h.2 ▸ wrap_inRange tc hall _
      rw [if_pos hin, ← h.1, h.2]
    · cases h

theorem castTo_int_flt (R : Rounding) (r : Rep) {cr : Rep} {F : Fmt} (hF : cr.fmt? = some F) (v : Int) :
    castTo R r cr (.i v) = (match R F (v : Rat) with | some q => Res.ok (.f q) | none => .nonfinite, false) := by
  cases cr <;> cases hF <;> rfl

theorem castTo_self_flt (R : Rounding) {cr : Rep} {F : Fmt} (hF : cr.fmt? = some F) (w : Rat) :
    castTo R cr cr (.f w) = (.ok (.f w), false) := by
  cases cr <;> cases hF <;> simp [castTo, Rep.intTy?, Rep.fmt?]

theorem mulRep_flt (R : Rounding) {cr : Rep} {F : Fmt} (hF : cr.fmt? = some F) (a b : Rat) :
    mulRep R cr (.f a) (.f b) = (match R F (a * b) with | some q => Res.ok (.f q) | none => .nonfinite) := by
  cases cr <;> cases hF <;> rfl

theorem getValueRep_flt (R : Rounding) {cr : Rep} {F : Fmt} (hF : cr.fmt? = some F) (m : Mag) :
    getValueRep R cr m = if m = [] then .ok (.f 1)
      else (match R F (m.natValue : Rat) with | some q => Res.ok (.f q) | none => .nonfinite) := by
  cases cr <;> cases hF <;> rfl

theorem castTo_flt_form (R : Rounding) (hR : RoundingOK R) {cr r : Rep} {F : Fmt} (hF : cr.fmt? = some F)
    (hc : Rep.common cr r = cr) (x : Val) (hx : x.Holds R r) :
    castTo R r cr x = (.nonfinite, false) ∨ ∃ q0, castTo R r cr x = (.ok (.f q0), false) ∧ R F q0 = some q0 := by
  cases x with
  | i v =>
    rw [castTo_int_flt R r hF]
    cases hq : R F (v : Rat) with
    | none => exact .inl rfl
    | some q =>
      have hp : 1 ≤ F.prec := by cases cr <;> cases hF <;> decide
      exact .inr ⟨q, rfl, hR.idem F _ q hp hq⟩
  | f q =>
    obtain ⟨Fr, hFr, hq⟩ := hx
    -- `common cr r = cr` leaves float → float, float → double, double → double: the value is kept
    have hcast : castTo R r cr (.f q) = (.ok (.f q), false) := by
      cases cr <;> cases hF <;> cases r <;> cases hFr <;> first | rfl | cases hc
    have hfmt : Fr = F ∨ (Fr = Fmt.single ∧ F = Fmt.double) := by
      cases cr <;> cases hF <;> cases r <;> cases hFr <;> first | exact .inl rfl | exact .inr ⟨rfl, rfl⟩ | cases hc
    refine .inr ⟨q, hcast, ?_⟩
    rcases hfmt with rfl | ⟨rfl, rfl⟩
    · exact hq
    · exact hR.widen q hq

theorem operand_agree_flt (R : Rounding) (hR : RoundingOK R) {cr r : Rep} {F : Fmt} (hF : cr.fmt? = some F)
    (hc : Rep.common cr r = cr) (x : Val) (hx : x.Holds R r) (cf : Period) (hden : cf.den = 1)
    (sf : Mag) (hok : Mag.Ok sf) (hi : sf.isInteger = true) (hsf : sf.natValue = cf.num) (out : Val)
    (h : durationCastCF R cr cf r x = (.ok out, false)) : scaleToCommon R cr sf r x = .ok out := by
  have hc3 : Rep.common (Rep.common cr r) Rep.i64 = cr := by rw [hc]; cases cr <;> cases hF <;> rfl
  unfold durationCastCF at h
  unfold scaleToCommon
  simp only [hden, ne_eq, not_true_eq_false, if_false, hc3] at h
  rcases castTo_flt_form R hR hF hc x hx with hnf | ⟨q0, hq0, hrep⟩
  · -- the conversion of the count overflows: chrono's result is not clean
    rw [hnf] at h
    by_cases h1 : cf.num = 1
    · simp [h1] at h
    · simp [h1, Res.bind] at h
  · rw [hq0] at h ⊢
    -- `rep_cast` multiplies by `get_value<CRep>(Magnitude<>)` = 1, which changes nothing
    have hone : mulRep R cr (.f q0) (.f 1) = .ok (.f q0) := by rw [mulRep_flt R hF, mul_one, hrep]
    by_cases h1 : cf.num = 1
    · have hnil : sf = [] := Mag.eq_nil_of_natValue_one hok hi (by omega)
      simp only [h1, if_true, Prod.mk.injEq, Res.ok.injEq, and_true] at h
      subst h
      simp only [Res.bind, getValueRep_flt R hF, if_true, hone, hnil]
    · have hne : sf ≠ [] := by rintro rfl; exact h1 hsf.symm
      simp only [h1, if_false, castTo_int_flt R Rep.i64 hF, Res.bind, Int.cast_natCast] at h
      simp only [Res.bind, getValueRep_flt R hF, if_true, hone, if_neg hne, hsf]
      -- both round the factor to the common rep, multiply, and round again
      cases hk : R F ((cf.num : Nat) : Rat) with
      | none => simp [hk] at h
      | some kq =>
        simp only [hk, mulRep_flt R hF] at h ⊢
        cases hp : R F (q0 * kq) with
        | none => simp [hp] at h
        | some w =>
          simp only [hp, castTo_self_flt R hF, Prod.mk.injEq, Res.ok.injEq, and_true] at h
          subst h; rfl

/-- Whenever chrono's `duration_cast` of an operand to the common type is clean (no undefined
behaviour, finite, no value-changing narrowing), Au's `cast_to_common_type` of the corresponding
quantity returns the same count — for all four reps. -/
theorem operand_agree (R : Rounding) (cr r : Rep) (hR : cr.isFloat = true → RoundingOK R) (hc : Rep.common cr r = cr)
    (x : Val) (hx : x.Holds R r) (cf : Period) (hden : cf.den = 1) (h64 : (cf.num : Int) ≤ i64hi)
    (sf : Mag) (hok : Mag.Ok sf) (hi : sf.isInteger = true) (hsf : sf.natValue = cf.num) (out : Val)
    (h : durationCastCF R cr cf r x = (.ok out, false)) : scaleToCommon R cr sf r x = .ok out := by
  cases hcr : cr.intTy? with
  | some tc =>
    -- an integral common rep has integral operands, no wider than itself
    cases x with
    | f q => obtain ⟨F, hF, -⟩ := hx; cases cr <;> cases hcr <;> cases r <;> cases hF <;> cases hc
    | i v =>
      obtain ⟨tr, htr, hv⟩ := hx
      have hsub : tc.lo ≤ tr.lo ∧ tr.hi ≤ tc.hi := by
        cases cr <;> cases hcr <;> cases r <;> cases htr <;> first | decide | cases hc
      exact operand_agree_int R hcr htr v (inRange_mono hsub.1 hsub.2 hv) cf hden h64 sf hsf out h
  | none =>
    obtain ⟨F, hF⟩ := Rep.fmt?_of_intTy?_none hcr
    exact operand_agree_flt R (hR (by simp [Rep.isFloat, hF])) hF hc x hx cf hden sf hok hi hsf out h

theorem Res.bind_eq_ok {α β : Type} {r : Res α} {f : α → Res β} {b : β} (h : r.bind f = .ok b) :
    ∃ a, r = .ok a ∧ f a = .ok b := by
  cases r <;> simp [Res.bind] at h
  exact ⟨_, rfl, h⟩

/-- Core of `C17_mixed_ops_agree`: two quantities whose units are seconds × p₁, seconds × p₂. -/
theorem quantityOp_agree (R : Rounding) (op : Op) (d1 d2 : Duration)
    (hR : (Rep.common d1.rep d2.rep).isFloat = true → RoundingOK R)
    (h1 : d1.period.Pos) (h2 : d2.period.Pos)
    (hx1 : d1.count.Holds R d1.rep) (hx2 : d2.count.Holds R d2.rep)
    (hc1 : ((ratioDivide d1.period (chronoCommonPeriod d1.period d2.period)).num : Int) ≤ i64hi)
    (hc2 : ((ratioDivide d2.period (chronoCommonPeriod d1.period d2.period)).num : Int) ≤ i64hi)
    (v : OpVal) (hclean : (chronoOp R op d1 d2).Clean v) (q1 q2 : Quantity)
    (hm1 : q1.mag = ratioMag d1.period) (hr1 : q1.rep = d1.rep) (hv1 : q1.value = d1.count)
    (hm2 : q2.mag = ratioMag d2.period) (hr2 : q2.rep = d2.rep) (hv2 : q2.value = d2.count) :
    quantityOp R op q1 q2 = .ok v := by
  obtain ⟨hk1, hn1, hden1, hk2, hn2, hden2⟩ := common_scale h1 h2
  have hokc := Mag.ok_common (ok_ratioMag h1) (ok_ratioMag h2)
  have hok1 := Mag.ok_div (ok_ratioMag h1) hokc
  have hok2 := Mag.ok_div (ok_ratioMag h2) hokc
  obtain ⟨hval, hnar⟩ := hclean
  unfold chronoOp at hval hnar
  unfold durationCast at hval hnar
  dsimp only at hval hnar
  generalize hA : durationCastCF R (Rep.common d1.rep d2.rep)
    (ratioDivide d1.period (chronoCommonPeriod d1.period d2.period)) d1.rep d1.count = A at hval hnar
  generalize hB : durationCastCF R (Rep.common d1.rep d2.rep)
    (ratioDivide d2.period (chronoCommonPeriod d1.period d2.period)) d2.rep d2.count = B at hval hnar
  obtain ⟨a, n1⟩ := A
  obtain ⟨b, n2⟩ := B
  dsimp only at hval hnar
  simp only [Bool.or_eq_false_iff] at hnar
  obtain ⟨rfl, rfl⟩ := hnar
  obtain ⟨x', rfl, hval⟩ := Res.bind_eq_ok hval
  obtain ⟨y', rfl, hval⟩ := Res.bind_eq_ok (r := b) hval
  have e1 := operand_agree R _ _ hR (Rep.common_absorb_left d1.rep d2.rep) d1.count hx1 _ hden1 hc1 _ hok1 hk1 hn1 x' hA
  have e2 := operand_agree R _ _ hR (Rep.common_absorb_right d1.rep d2.rep) d2.count hx2 _ hden2 hc2 _ hok2 hk2 hn2 y' hB
  unfold quantityOp commonQuantity castToCommon
  simp only [hm1, hm2, hr1, hr2, hv1, hv2, e1, e2, Res.bind]
  exact hval

theorem toDuration_same {q : Quantity} (r : Rep) (p : Period) (hok : q.mag.Ok) (hm : (corrUnit r p).2 = q.mag)
    (hr : q.rep = r) : toDuration q r p = .ok (some ⟨r, p, q.value⟩) := by
  subst hr
  unfold toDuration
  simp [hm, Mag.div_self hok, permitImplicitFrom, corePolicy]

end Au.Chrono
