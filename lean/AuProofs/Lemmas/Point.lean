/-
  AuProofs.Lemmas.Point — lemmas for `AuModel.Point` (core Lean only): evaluation in the style of
  `AuProofs.Lemmas.Mixed` (the conversion by a fraction, the glue between the result records, the integer half of
  the arithmetic on the origins, which are `int` quantities; the half stated through `originOf` is on the page
  `AuProofs.C09`, which defines it), `Point.ratio`, `Point.gcdScale`, the step of `commonPointUnit`, and the affine
  identities the conversions of `AuProofs.C09` end in.
-/
import AuModel.Point
import AuProofs.Lemmas.Mixed
import AuProofs.Lemmas.CommonRat
namespace Au
open IntTy Mixed

namespace Point

theorem intermediateRep_mem : ∀ r ∈ IntTy.all, ∀ n ∈ IntTy.all, intermediateRep r n ∈ IntTy.all := by decide

theorem andThen_ok' (v : Int) (f : Int → ApplyResult) : andThen ⟨.ok v, false, false⟩ f = f v :=
  Mixed.andThen_ok v f

theorem liftStep_clean_iff (s : Step) (z : Int) : liftStep s = ⟨.ok z, false, false⟩ ↔ s = ⟨.ok z, false⟩ := by
  cases s; simp [liftStep]

theorem liftRes_clean_iff (r : Res Int) (z : Int) : liftRes r = ⟨.ok z, false, false⟩ ↔ r = ⟨.ok z, false, false⟩ := by
  cases r; simp [liftRes]

theorem ubRes_ne_clean (w : String) (z : Int) : ubRes w ≠ ⟨.ok z, false, false⟩ := by
  simp [ubRes]

theorem asRepFrac_clean_iff (p n : IntTy) (hc : IntTy.common p n ∈ IntTy.all) (hn : n ∈ IntTy.all) (N D : Nat)
    (hD : 0 < D) (y z : Int) :
    asRepFrac p n N D y = ⟨.ok z, false, false⟩ ↔
      (IntTy.common p n).inRange y ∧ (IntTy.common p n).promote.inRange (y * N) ∧
      (IntTy.common p n).inRange (Int.tdiv (y * N) D) ∧ n.inRange (Int.tdiv (y * N) D) ∧ z = Int.tdiv (y * N) D :=
  castApplyCast_clean_iff _ n hc hn N D hD y z

end Point

/-! ### Origins are `int` quantities; `originsEqual` and `dispValue` read only the `.val` of their arithmetic -/

namespace Mixed

/-- In `int` (signed, its own promotion) nothing wraps or narrows silently: scaling an `int` value is exact or it is
undefined behaviour. -/
theorem castToCommon_i32_of_val (k : Nat) (v z : Int) (hv : i32.inRange v)
    (h : (castToCommon i32 i32 k v).val = .ok z) : z = v * k := by
  by_cases hr : i32.inRange (v * k)
  · rw [(castToCommon_clean_iff i32 i32 (by decide) (by decide) k v _).2 ⟨hv, hv, hr, rfl⟩] at h
    exact (Eval.ok.inj h).symm
  · -- the multiplication is undefined, and so is everything after it
    have e1 := repCast_ok i32 i32 (by decide) (by decide) v hv hv
    have e2 : staticCast i32 v = ⟨.ok v, false, false⟩ := staticCast_ok i32 (by decide) v hv
    have e3 : mulIn i32 v k = ⟨.ub "signed overflow in multiplication", false⟩ := by
      simp only [mulIn, show i32.signed = true from rfl, if_true, if_neg hr]
    simp [castToCommon, e1, andThen, asRep, common_self, e2, applyMag, categorize_one,
      show i32.promote = i32 from rfl, e3, finish] at h

theorem commonPair_i32_of_val (k1 k2 : Nat) (a b x y : Int) (ha : i32.inRange a) (hb : i32.inRange b)
    (h : (commonPair i32 i32 k1 k2 a b).val = .ok (x, y)) : x = a * k1 ∧ y = b * k2 := by
  simp only [commonPair, usingCommon, common_self] at h
  split at h
  · next x' y' hx hy =>
    obtain ⟨rfl, rfl⟩ := Prod.mk.inj (Eval.ok.inj h)
    exact ⟨castToCommon_i32_of_val k1 a _ ha hx, castToCommon_i32_of_val k2 b _ hb hy⟩
  · cases h
  · cases h

/-- Comparison of two `int` quantities (the compile-time comparison of two origins): whenever it has a value,
that value is the comparison of the exact scaled counts. -/
theorem cmp_i32_of_val (op : CmpOp) (k1 k2 : Nat) (a b : Int) (bb : Bool) (ha : i32.inRange a) (hb : i32.inRange b)
    (h : (cmp op i32 i32 k1 k2 a b).val = .ok bb) : bb = op.eval (a * k1) (b * k2) := by
  rw [cmp_val] at h
  split at h
  · next x y hp =>
    obtain ⟨rfl, rfl⟩ := commonPair_i32_of_val k1 k2 a b x y ha hb hp
    exact (Eval.ok.inj h).symm
  · cases h

/-- Difference of two `int` quantities (`OriginDisplacement`): whenever it has a value, it is exact. -/
theorem sub_i32_of_val (k1 k2 : Nat) (a b d : Int) (ha : i32.inRange a) (hb : i32.inRange b)
    (h : (sub i32 i32 k1 k2 a b).val = .ok d) : d = a * k1 - b * k2 := by
  rw [sub_val] at h
  split at h
  · next x y hp =>
    obtain ⟨rfl, rfl⟩ := commonPair_i32_of_val k1 k2 a b x y ha hb hp
    -- a signed subtraction has a value only when it is exact
    simp only [subIn, show (IntTy.common i32 i32).promote.signed = true from rfl, if_true] at h
    split at h
    · exact (Eval.ok.inj h).symm
    · cases h
  · cases h

end Mixed

namespace Point
open URat

theorem dispUnit_pos (a b : PtUnit) (ha : a.ou.Pos) (hb : b.ou.Pos) : (dispUnit a b).Pos :=
  common_pos _ _ hb ha

theorem gcdScale_pos (a b : URat) (ha : a.Pos) (hb : b.Pos) : (gcdScale a b).Pos :=
  reduced_pos _ (common_pos a b ha hb)

theorem gcdScale_dvd_left (a b : URat) (ha : a.Pos) (hb : b.Pos) : Divides (gcdScale a b) a :=
  Divides.trans (common_pos a b ha hb) (reduced_dvd _) (common_dvd_left a b)

theorem gcdScale_dvd_right (a b : URat) (ha : a.Pos) (hb : b.Pos) : Divides (gcdScale a b) b :=
  Divides.trans (common_pos a b ha hb) (reduced_dvd _) (common_dvd_right a b)

/-- `ratio a b = N/D` in the sense `N · b = D · a`, both positive (root name: registered as `Au.ratio_spec`). -/
theorem _root_.Au.ratio_spec (a b : URat) (ha : a.Pos) (hb : b.Pos) :
    ((Point.ratio a b).1 : Rat) * b.scale = ((Point.ratio a b).2 : Rat) * a.scale ∧
    0 < (Point.ratio a b).1 ∧ 0 < (Point.ratio a b).2 := by
  have hn : 0 < a.num * b.den := Nat.mul_pos ha.1 hb.2
  have hd : 0 < a.den * b.num := Nat.mul_pos ha.2 hb.1
  refine ⟨?_, Nat.div_gcd_pos_of_pos_left _ hn, Nat.div_gcd_pos_of_pos_right _ hd⟩
  have c1 := congrArg (fun n : Nat => (n : Rat)) (Nat.div_mul_cancel (Nat.gcd_dvd_left (a.num * b.den) (a.den * b.num)))
  have c2 := congrArg (fun n : Nat => (n : Rat)) (Nat.div_mul_cancel (Nat.gcd_dvd_right (a.num * b.den) (a.den * b.num)))
  simp only [Rat.natCast_mul] at c1 c2
  have hgq := rat_natCast_ne_zero (Nat.gcd_pos_of_pos_left (a.den * b.num) hn)
  have hda := rat_natCast_ne_zero ha.2
  have hdb := rat_natCast_ne_zero hb.2
  unfold Point.ratio URat.scale
  dsimp only
  -- N·(nb/db) = D·(na/da): clear `da`, `db`, and use `c1`: N·g = na·db, `c2`: D·g = da·nb with g ≠ 0
  grind

theorem ratio_den_pos (a b : URat) (ha : a.Pos) (hb : b.Pos) : 0 < (Point.ratio a b).2 := by
  obtain ⟨-, -, hD⟩ := ratio_spec a b ha hb
  exact hD

theorem ratio_of_divides (x y : URat) (hx : x.Pos) (hy : y.Pos) (h : Divides x y) :
    ∃ N : Nat, ratio y x = (N, 1) ∧ (N : Rat) * x.scale = y.scale := by
  -- the denominator `y.den·x.num` divides the numerator, so it is the gcd and reduces to 1
  have hD : (ratio y x).2 = 1 := by
    unfold ratio
    dsimp only
    rw [Nat.gcd_eq_right h]
    exact Nat.div_self (Nat.mul_pos hy.2 hx.1)
  obtain ⟨hspec, _, _⟩ := ratio_spec y x hy hx
  rw [hD] at hspec
  exact ⟨(ratio y x).1, Prod.ext rfl hD, by simpa using hspec⟩

theorem commonOriginUnit_cases (u1 u2 : PtUnit) : commonOriginUnit u1 u2 = u1 ∨ commonOriginUnit u1 u2 = u2 := by
  unfold commonOriginUnit
  split
  · exact Or.inl rfl
  · exact Or.inr rfl

/-- The local `add` of `commonPointUnit` under a name of its own (one step of `CommonPointUnit::Mag`). -/
def commonPointUnit_step (co : PtUnit) (s : URat) (u : PtUnit) : URat :=
  match (originsEqual co u).val with
  | .ok true => s
  | _ => gcdScale s (dispUnit co u)

theorem commonPointUnit_scale (u1 u2 : PtUnit) :
    (commonPointUnit u1 u2).scale =
      commonPointUnit_step (commonOriginUnit u1 u2)
        (commonPointUnit_step (commonOriginUnit u1 u2) (gcdScale u1.scale u2.scale) u1) u2 := by
  unfold commonPointUnit commonPointUnit_step
  rfl

theorem affine_same {v : Int} {N : Nat} {s s' o : Rat} (hN : (N : Rat) * s' = s) :
    ((v * N : Int) : Rat) * s' + o = (v : Rat) * s + o := by
  rw [Rat.intCast_mul, Rat.intCast_natCast, ← hN, Rat.mul_assoc]

/-- Displaced origins (`in<NewRep>`): both counts are counts of `cu`, the displacement `dv·sd = o' − o` is subtracted. -/
theorem affine_sub {v dv : Int} {kA kD : Nat} {s sd cu o o' : Rat}
    (e1 : s = (kA : Rat) * cu) (e2 : sd = (kD : Rat) * cu) (hd : (dv : Rat) * sd = o' - o) :
    ((v * kA - dv * kD : Int) : Rat) * cu + o' = (v : Rat) * s + o := by
  simp only [Rat.intCast_mul, Rat.intCast_sub, Rat.intCast_natCast]
  grind

/-- Displaced origins (`in(unit)`): the displacement `dv·sd = o − o'` is added. -/
theorem affine_add {v dv : Int} {kA kD : Nat} {s sd cu o o' : Rat}
    (e1 : s = (kA : Rat) * cu) (e2 : sd = (kD : Rat) * cu) (hd : (dv : Rat) * sd = o - o') :
    ((v * kA + dv * kD : Int) : Rat) * cu + o' = (v : Rat) * s + o := by
  simp only [Rat.intCast_mul, Rat.intCast_add, Rat.intCast_natCast]
  grind

end Point
end Au
