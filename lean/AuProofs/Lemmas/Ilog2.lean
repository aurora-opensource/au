/-
  Powers of two in ℚ and `ilog2 n d = ⌊log₂ (n/d)⌋`.  The shared float model and the chrono model each carry a copy of `ilog2`
  (`Au.ilog2` and `Au.Chrono.ilog2` are one function, equal by `rfl`); it is specified once, here.  The strict direction
  `a < b → 2^a < 2^b` is `Au.Chrono.zpow_lt_of_lt` in `Lemmas/ChronoRne`.
-/
import AuModel.Flt
import Mathlib.Algebra.Order.Field.Rat
import Mathlib.Tactic.Linarith
import Mathlib.Tactic.Ring
import Mathlib.Tactic.Positivity

namespace Au

theorem two_zpow_pos (k : Int) : (0 : ℚ) < (2 : ℚ) ^ k := zpow_pos (by norm_num) k

theorem two_zpow_le_of_le {a b : Int} (h : a ≤ b) : (2 : ℚ) ^ a ≤ (2 : ℚ) ^ b :=
  zpow_le_zpow_right₀ (by norm_num) h

theorem lt_of_two_zpow_lt {a b : Int} (h : (2 : ℚ) ^ a < (2 : ℚ) ^ b) : a < b :=
  (zpow_lt_zpow_iff_right₀ (by norm_num : (1 : ℚ) < 2)).1 h

theorem log2_bounds {n : Nat} (hn : n ≠ 0) :
    (2 : ℚ) ^ (n.log2 : Int) ≤ n ∧ (n : ℚ) < (2 : ℚ) ^ ((n.log2 : Int) + 1) := by
  constructor
  · rw [zpow_natCast]; exact_mod_cast Nat.log2_self_le hn
  · rw [show ((n.log2 : Int) + 1) = ((n.log2 + 1 : Nat) : Int) by push_cast; ring, zpow_natCast]
    exact_mod_cast (Nat.lt_log2_self : n < 2 ^ (n.log2 + 1))

/-- Whichever sign `k` has, one of the two exponents is 0. -/
theorem two_zpow_eq_div (k : Int) : (2 : ℚ) ^ k = (2 : ℚ) ^ k.toNat / (2 : ℚ) ^ (-k).toNat := by
  rw [← zpow_natCast, ← zpow_natCast, ← zpow_sub₀ (by norm_num)]; congr 1; omega

theorem two_zpow_le_div_iff (e : Int) (n : Nat) {d : Nat} (hd : 0 < d) :
    (2 : ℚ) ^ e ≤ (n : ℚ) / d ↔ 2 ^ e.toNat * d ≤ n * 2 ^ (-e).toNat := by
  have hdq : (0 : ℚ) < d := by exact_mod_cast hd
  rw [two_zpow_eq_div, div_le_div_iff₀ (by positivity) hdq]
  exact_mod_cast Iff.rfl

theorem ilog2_spec (n d : Nat) (hn : 0 < n) (hd : 0 < d) :
    (2 : ℚ) ^ (ilog2 n d) ≤ (n : ℚ) / d ∧ (n : ℚ) / d < (2 : ℚ) ^ (ilog2 n d + 1) := by
  have hdq : (0 : ℚ) < d := by exact_mod_cast hd
  obtain ⟨h1, h2⟩ := log2_bounds hn.ne'
  obtain ⟨h3, h4⟩ := log2_bounds hd.ne'
  set e0 : Int := (n.log2 : Int) - (d.log2 : Int) with he0
  -- `e0` is right up to one: `2^(e0-1) < n/d < 2^(e0+1)`
  have hup : (n : ℚ) / d < (2 : ℚ) ^ (e0 + 1) := by
    rw [div_lt_iff₀ hdq]
    calc (n : ℚ) < (2 : ℚ) ^ ((n.log2 : Int) + 1) := h2
      _ = (2 : ℚ) ^ (e0 + 1) * (2 : ℚ) ^ (d.log2 : Int) := by rw [← zpow_add₀ (by norm_num)]; congr 1; omega
      _ ≤ (2 : ℚ) ^ (e0 + 1) * d := mul_le_mul_of_nonneg_left h3 (two_zpow_pos _).le
  have hlo : (2 : ℚ) ^ (e0 - 1) < (n : ℚ) / d := by
    rw [lt_div_iff₀ hdq]
    calc (2 : ℚ) ^ (e0 - 1) * d < (2 : ℚ) ^ (e0 - 1) * (2 : ℚ) ^ ((d.log2 : Int) + 1) :=
          mul_lt_mul_of_pos_left h4 (two_zpow_pos _)
      _ = (2 : ℚ) ^ (n.log2 : Int) := by rw [← zpow_add₀ (by norm_num)]; congr 1; omega
      _ ≤ n := h1
  -- the test performed by the code decides `2^e0 ≤ n/d`
  have htest : ilog2 n d = if (2 : ℚ) ^ e0 ≤ (n : ℚ) / d then e0 else e0 - 1 := by
    unfold ilog2
    simp only [← he0, two_zpow_le_div_iff e0 n hd]
    split
    · rw [show (-e0).toNat = 0 by omega, pow_zero, mul_one]
    · rw [show e0.toNat = 0 by omega, pow_zero, one_mul]
  rw [htest]
  split
  · exact ⟨‹_›, hup⟩
  · exact ⟨hlo.le, by rw [sub_add_cancel]; exact lt_of_not_ge ‹_›⟩

end Au
