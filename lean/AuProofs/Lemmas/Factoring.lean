/-
  Lemmas about AuModel.Factoring.  Pollard's rho and the refinement loop are only searched, never
  proved to end; what is proved of each is a pair: a fact about the returned value whatever the
  flags (it divides `n`), and a fact that holds when the fuel sufficed (`stuck = false`).  Trial
  division is `List.findSome?` of one round: by value (`trialDivision_val`) and, for a table of
  positive entries, with flags (`trialDivision_ok`); everything about it is read off that.
  `multiplicity`, `int_pow`, `magInsert` and `PrimeFactorization<N>` of the same model file are in
  Lemmas/NatMag.lean.
-/
import AuModel.Factoring
import AuProofs.Lemmas.Primes
import Mathlib.Data.Nat.Prime.Basic
namespace Au
namespace U64

theorem rhoInner_spec (n t fuel tort hare mcl cl factor : Nat) (h : factor ∣ n) :
    (rhoInner n t fuel tort hare mcl cl factor).val ∣ n ∧
      ((rhoInner n t fuel tort hare mcl cl factor).stuck = false →
        (rhoInner n t fuel tort hare mcl cl factor).val ≠ 1) := by
  fun_induction rhoInner n t fuel tort hare mcl cl factor with
  | case1 => exact ⟨h, by simp [W.outOfFuel]⟩
  | case2 tort hare mcl cl fuel reset tort' step hreset ih | case3 tort hare mcl cl fuel reset tort' step hreset ih =>
    -- `step` is the loop body after `max_cycle_length` is set; the two cases are the reset or not
    simp only [step, gcd_spec, ok_bind, bind_val]
    obtain ⟨hdvd, hne⟩ := ih _ _ _ _ (Nat.gcd_dvd_left _ _)
    refine ⟨hdvd, fun hs => hne ?_⟩
    -- the recursive call is not stuck, the round (`hs`) being not; the same two lines recur below
    simp only [bind_stuck_eq_false] at hs
    simp only [hs]
  | case4 fuel tort hare mcl cl factor hf => exact ⟨h, fun _ => hf⟩

/-- Every value the rho step returns divides `n`; for `n > 1` and within its fuel it is `≠ 1` (so
`1 < d ≤ n`; `d < n` is the success case, `d = n` the "failure case"). -/
theorem rhoOuter_spec (fu : Fuel) (n fuel t : Nat) :
    (rhoOuter fu n fuel t).val ∣ n ∧
      (1 < n → (rhoOuter fu n fuel t).stuck = false → (rhoOuter fu n fuel t).val ≠ 1) := by
  fun_induction rhoOuter fu n fuel t with
  | case1 t h => exact ⟨Nat.dvd_refl n, by simp [W.outOfFuel]⟩
  | case2 t h fuel ih =>
    simp only [gcd_spec, ok_bind, bind_val]
    obtain ⟨hdvd, hne⟩ := rhoInner_spec n t fu.rhoSteps 2 (xSquaredPlusTModN 2 t n).val 1 1 _
      (Nat.gcd_dvd_left n (absoluteDiff 2 (xSquaredPlusTModN 2 t n).val).val)
    split
    next =>
      refine ⟨hdvd, fun _ hs => hne ?_⟩
      simp only [bind_stuck_eq_false] at hs
      simp only [hs]
    next hge =>
      refine ⟨(ih _).1, fun hn hs => (ih (add t 1).val).2 hn ?_⟩
      simp only [if_neg hge, bind_stuck_eq_false] at hs
      simp only [hs]
  | case3 fuel t h => exact ⟨Nat.dvd_refl n, fun hn _ => Nat.ne_of_gt hn⟩

theorem findPollardRhoFactor_dvd (fu : Fuel) (n : Nat) : (findPollardRhoFactor fu n).val ∣ n :=
  (rhoOuter_spec fu n _ _).1

/-- One round of the trial-division loop of `find_prime_factor`. -/
def trialStep (n p : Nat) : Option Nat := if n % p = 0 then some p else if p * p > n then some n else none

theorem trialDivision_val (n : Nat) (ps : List Nat) : (trialDivision n ps).val = ps.findSome? (trialStep n) := by
  induction ps with
  | nil => rfl
  | cons p ps ih =>
    unfold trialDivision
    simp only [bind_val, List.findSome?_cons, trialStep, mod]
    split
    · rfl
    · split
      · rfl
      · exact ih

theorem trialDivision_ok (n : Nat) (ps : List Nat) (hpos : ∀ p ∈ ps, 0 < p) :
    trialDivision n ps = W.ok (ps.findSome? (trialStep n)) := by
  induction ps with
  | nil => rfl
  | cons p ps ih =>
    unfold trialDivision
    rw [mod_ok (hpos p (by simp)), ok_bind, List.findSome?_cons, trialStep]
    split
    · rfl
    · split
      · rfl
      · exact ih fun q hq => hpos q (by simp [hq])

/- `trialDivision_dvd` and `trialDivision_minFac` are stated on the `findSome?` form, which is what
`trialDivision_val` and `trialDivision_ok` leave in the hands of every caller. -/
theorem trialDivision_dvd (n : Nat) (table : List Nat) (r : Nat) (h : table.findSome? (trialStep n) = some r) :
    r ∣ n := by
  obtain ⟨p, -, hp⟩ := List.exists_of_findSome?_eq_some h
  unfold trialStep at hp
  split at hp
  · exact Option.some.inj hp ▸ Nat.dvd_of_mod_eq_zero ‹_›
  · split at hp
    · exact Option.some.inj hp ▸ Nat.dvd_refl n
    · cases hp

/-- What the proofs need of `Generated.firstPrimes`: an initial segment of the primes, in order. -/
structure PrimeTable (ps : List Nat) : Prop where
  sorted : ps.Pairwise (· < ·)
  prime : ∀ p ∈ ps, Nat.Prime p
  gapless : ∀ p ∈ ps, ∀ q, Nat.Prime q → q < p → q ∈ ps

/-- Whatever trial division returns is the smallest prime factor of `n`: the loop stops at the first
`p` that divides `n` or exceeds `√n`, and every smaller prime is an earlier entry that did neither. -/
theorem trialDivision_minFac (n : Nat) (hn : 1 < n) {ps : List Nat} (hps : PrimeTable ps) (r : Nat)
    (h : ps.findSome? (trialStep n) = some r) : r = Nat.minFac n := by
  rw [List.findSome?_eq_some_iff] at h
  obtain ⟨l₁, p, l₂, rfl, hp, hl₁⟩ := h
  have hmf : Nat.Prime n.minFac := Nat.minFac_prime (by omega)
  have hge : p ≤ n.minFac := by
    by_contra hlt
    rcases List.mem_append.1 (hps.gapless p (by simp) _ hmf (by omega)) with hm | hm
    · have := hl₁ _ hm
      simp [trialStep, Nat.mod_eq_zero_of_dvd (Nat.minFac_dvd n)] at this
    · rcases List.mem_cons.1 hm with hm | hm
      · omega
      · have := (List.pairwise_cons.1 (List.pairwise_append.1 hps.sorted).2.1).1 _ hm
        omega
  unfold trialStep at hp
  split at hp
  · obtain rfl := Option.some.inj hp
    have := Nat.minFac_le_of_dvd (hps.prime p (by simp)).two_le (Nat.dvd_of_mod_eq_zero ‹_›)
    omega
  · split at hp
    · obtain rfl := Option.some.inj hp
      refine (Nat.Prime.minFac_eq ?_).symm
      by_contra hnp
      have h1 := Nat.minFac_sq_le_self (by omega : 0 < n) hnp
      have h2 : p * p ≤ n.minFac * n.minFac := Nat.mul_le_mul hge hge
      rw [Nat.pow_two] at h1
      omega
    · cases hp

theorem two_le_and_odd_of_isPrime (fu : Fuel) (n : Nat) (h : (isPrime fu n).val = true) : 2 ≤ n ∧ (n = 2 ∨ n % 2 = 1) := by
  -- `baillie_psw` leaves on `n < 2`, `n < 4`, `n` even, in this order, before any test runs
  unfold isPrime bailliePSW at h
  split at h
  · cases h
  · split at h
    · omega
    · split at h
      · cases h
      · omega

theorem refineFactor_spec (fu : Fuel) (n fuel factor : Nat) (h : factor ∣ n) :
    (refineFactor fu fuel factor).val ∣ n ∧
      ((refineFactor fu fuel factor).stuck = false → (isPrime fu (refineFactor fu fuel factor).val).val = true) := by
  -- by hand: `fun_induction refineFactor` fails ("Cannot derive functional induction principle")
  induction fuel generalizing factor with
  | zero =>
    unfold refineFactor
    simp only [bind_val, bind_stuck_eq_false]
    split
    next hacc => exact ⟨h, fun _ => hacc⟩
    next => exact ⟨h, by simp [W.outOfFuel]⟩
  | succ k ih =>
    unfold refineFactor
    simp only [bind_val, bind_stuck_eq_false]
    split
    next hacc => exact ⟨h, fun _ => hacc⟩
    next =>
      simp only [bind_val]
      obtain ⟨hdvd, hacc⟩ := ih _ ((findPollardRhoFactor_dvd fu factor).trans h)
      refine ⟨hdvd, fun hs => hacc ?_⟩
      simp only [bind_stuck_eq_false] at hs
      simp only [hs]

theorem findPrimeFactor_dvd (fu : Fuel) (table : List Nat) (n : Nat) : (findPrimeFactor fu table n).val ∣ n := by
  unfold findPrimeFactor
  simp only [bind_val, trialDivision_val]
  split
  next r hr => exact trialDivision_dvd n table r hr
  next =>
    simp only [bind_val]
    split
    · exact Nat.dvd_refl n
    · exact (refineFactor_spec fu n _ _ (findPollardRhoFactor_dvd fu n)).1

theorem findPrimeFactor_spec (fu : Fuel) (table : List Nat) (n : Nat) (hn : 1 < n) (htab : PrimeTable table)
    (hs : (findPrimeFactor fu table n).stuck = false) :
    (findPrimeFactor fu table n).val ∣ n ∧ 1 < (findPrimeFactor fu table n).val ∧
      (Nat.Prime (findPrimeFactor fu table n).val ∨ (isPrime fu (findPrimeFactor fu table n).val).val = true) := by
  have key : Nat.Prime (findPrimeFactor fu table n).val ∨ (isPrime fu (findPrimeFactor fu table n).val).val = true := by
    unfold findPrimeFactor at hs ⊢
    simp only [bind_val, bind_stuck_eq_false, trialDivision_val] at hs ⊢
    split
    next r hr => exact .inl (trialDivision_minFac n hn htab r hr ▸ Nat.minFac_prime (by omega))
    next hnone =>
      simp only [hnone, bind_val, bind_stuck_eq_false] at hs ⊢
      split
      next hacc => exact .inr hacc
      next hrej =>
        refine .inr ((refineFactor_spec fu n _ _ (findPollardRhoFactor_dvd fu n)).2 ?_)
        simp only [if_neg hrej, bind_stuck_eq_false] at hs
        simp only [hs]
  exact ⟨findPrimeFactor_dvd fu table n, key.elim Nat.Prime.one_lt fun h => (two_le_and_odd_of_isPrime fu _ h).1, key⟩

/-- `find_prime_factor` is exact — value AND flags, for any fuel — whenever trial division decides. -/
theorem findPrimeFactor_eq_minFac (fu : Fuel) (table : List Nat) (n : Nat) (hn : 1 < n) (htab : PrimeTable table)
    (hlast : ∃ p ∈ table, n < p * p) : findPrimeFactor fu table n = W.ok (Nat.minFac n) := by
  unfold findPrimeFactor
  rw [trialDivision_ok n table fun p hp => (htab.prime p hp).pos, ok_bind]
  cases h : table.findSome? (trialStep n) with
  | none =>
    obtain ⟨p, hp, hlt⟩ := hlast
    have := List.findSome?_eq_none_iff.1 h p hp
    unfold trialStep at this
    rw [if_pos hlt] at this
    split at this <;> cases this
  | some r => exact congrArg W.ok (trialDivision_minFac n hn htab r h)

end U64
end Au
