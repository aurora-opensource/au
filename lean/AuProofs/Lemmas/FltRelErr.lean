/-
  Accumulated roundoff of the long-double `get_value` pipeline.  `RelN F n x w`: `w` is `x` after at most `n` roundings in
  format `F` (`w = x·ρ`, `(1−u)^n ≤ ρ ≤ (1+u)^n`, `u = 2^-prec`); `ApproxF n x v`: the float `v` is `+inf` or a finite value
  `≥ 1` with `RelN ld n x`.  One rounding in the normal range is one step (`rne_RelN`, from `rne_rel_err`); a multiplication
  adds the roundings of its operands and one (`mul_ApproxF`); `checked_int_pow` is followed along `cipLoopF_induct`, `product` by
  recursion on the list.
-/
import AuProofs.Lemmas.FltPipeline

namespace Au

/-- Non-vacuity: 1/3 rounded to binary32 is 11184811·2^-25, within 2^-24 of 1/3 relatively. -/
example : rne FltTy.f32 (1 / 3) = .fin (11184811 / 33554432) := by decide +kernel

/-- The unit roundoff of a format. -/
def uro (F : FltTy) : ℚ := (2 : ℚ) ^ (-(F.prec : Int))

theorem uro_pos (F : FltTy) : 0 < uro F := two_zpow_pos _

theorem uro_le_one (F : FltTy) : uro F ≤ 1 := by
  unfold uro
  have : (2 : ℚ) ^ (-(F.prec : Int)) ≤ (2 : ℚ) ^ (0 : Int) := two_zpow_le_of_le (by omega)
  simpa using this

/-- `w` is `x` after at most `n` roundings. -/
def RelN (F : FltTy) (n : Nat) (x w : ℚ) : Prop :=
  ∃ ρ : ℚ, w = x * ρ ∧ (1 - uro F) ^ n ≤ ρ ∧ ρ ≤ (1 + uro F) ^ n

theorem RelN.refl (F : FltTy) (x : ℚ) : RelN F 0 x x := ⟨1, by ring, by simp, by simp⟩

theorem RelN.prod (F : FltTy) {n m : Nat} {x y a b : ℚ} (h1 : RelN F n x a) (h2 : RelN F m y b) :
    RelN F (n + m) (x * y) (a * b) := by
  obtain ⟨ρ1, ha, l1, u1⟩ := h1
  obtain ⟨ρ2, hb, l2, u2⟩ := h2
  have hu := uro_pos F
  have hu1 := uro_le_one F
  have p1 : 0 ≤ (1 - uro F) ^ n := pow_nonneg (by linarith) n
  have p2 : 0 ≤ (1 - uro F) ^ m := pow_nonneg (by linarith) m
  refine ⟨ρ1 * ρ2, by rw [ha, hb]; ring, ?_, ?_⟩
  · rw [pow_add]; exact mul_le_mul l1 l2 p2 (le_trans p1 l1)
  · rw [pow_add]; exact mul_le_mul u1 u2 (le_trans p2 l2) (pow_nonneg (by linarith) n)

theorem RelN.trans (F : FltTy) {n m : Nat} {x a w : ℚ} (h1 : RelN F n x a) (h2 : RelN F m a w) : RelN F (n + m) x w := by
  obtain ⟨ρ, hw, l, u⟩ := h2
  have := RelN.prod F h1 (⟨ρ, (one_mul ρ).symm, l, u⟩ : RelN F m 1 ρ)
  rwa [mul_one, ← hw] at this

theorem rne_RelN (F : FltTy) (q : ℚ) (hq : q ≠ 0) (hnormal : (2 : ℚ) ^ F.emin ≤ |q|) (w : ℚ) (h : rne F q = .fin w) :
    RelN F 1 q w := by
  have herr := rne_rel_err F q hq hnormal w h
  have habs : 0 < |q| := abs_pos.2 hq
  have h1 : |w / q - 1| ≤ uro F := by
    rw [show w / q - 1 = (w - q) / q by field_simp, abs_div, div_le_iff₀ habs, mul_comm]
    exact herr
  obtain ⟨hlo, hhi⟩ := abs_le.1 h1
  exact ⟨w / q, by field_simp, by rw [pow_one]; linarith, by rw [pow_one]; linarith⟩

/-- **One floating multiplication**: if `a`, `b` carry `n`, `m` roundings of `x`, `y` and the product is in the normal
range and finite, the result carries `n + m + 1` roundings of `x·y`. -/
theorem mul_RelN (F : FltTy) {n m : Nat} {x y a b : ℚ} (h1 : RelN F n x a) (h2 : RelN F m y b)
    (hab : a * b ≠ 0) (hnormal : (2 : ℚ) ^ F.emin ≤ |a * b|) (w : ℚ) (h : Flt.mul F (.fin a) (.fin b) = .fin w) :
    RelN F (n + m + 1) (x * y) w := by
  have hstep : RelN F 1 (a * b) w := rne_RelN F (a * b) hab hnormal w (Flt.mul_fin F a b ▸ h)
  exact RelN.trans F (RelN.prod F h1 h2) hstep

/-- `1 − (1−u)^n ≤ (1+u)^n − 1`: the lower deviation is covered by the upper bound. -/
theorem pow_sum_ge_two (u : ℚ) (h0 : 0 ≤ u) (h1 : u ≤ 1) : ∀ n : Nat, 2 ≤ (1 - u) ^ n + (1 + u) ^ n
  | 0 => by norm_num
  | k + 1 => by
    have ih := pow_sum_ge_two u h0 h1 k
    have a0 : 0 ≤ (1 - u) ^ k := pow_nonneg (by linarith) k
    have b0 : (1 - u) ^ k ≤ (1 + u) ^ k := pow_le_pow_left₀ (by linarith) (by linarith) k
    rw [pow_succ, pow_succ]
    nlinarith

/-- The relative error of a finite result is at most `(1+u)^k − 1` with `k` the total number of roundings
(`u = 2^-64` for long double): `|w − x| ≤ x · ((1+u)^k − 1)` for a non-negative exact value. -/
theorem RelN.abs_err (F : FltTy) {n : Nat} {x w : ℚ} (hx : 0 ≤ x) (h : RelN F n x w) :
    |w - x| ≤ x * ((1 + uro F) ^ n - 1) := by
  obtain ⟨ρ, hw, hlo, hhi⟩ := h
  have hu := uro_pos F
  have hu1 := uro_le_one F
  have key := pow_sum_ge_two (uro F) (le_of_lt hu) hu1 n
  have hup : w - x ≤ x * ((1 + uro F) ^ n - 1) := by rw [hw]; nlinarith
  have hlow : -(x * ((1 + uro F) ^ n - 1)) ≤ w - x := by rw [hw]; nlinarith
  exact abs_le.2 ⟨hlow, hup⟩

/-- Non-vacuity of the product theorem: 3 · 5 · 7 in long double from exact factors is exactly 105. -/
example : productF [Flt.fin 3, Flt.fin 5, Flt.fin 7] (Flt.fin 1) = some (Flt.fin 105) := by decide +kernel

theorem normal_of_ge_one (F : FltTy) (hemin : F.emin ≤ 0) (q : ℚ) (h : 1 ≤ q) : (2 : ℚ) ^ F.emin ≤ |q| := by
  have h1 : (2 : ℚ) ^ F.emin ≤ (2 : ℚ) ^ (0 : Int) := two_zpow_le_of_le hemin
  rw [abs_of_pos (by linarith)]
  simpa using h1.trans (by simpa using h)

theorem ld_normal_of_ge_one (q : ℚ) (h : 1 ≤ q) : (2 : ℚ) ^ ld.emin ≤ |q| := normal_of_ge_one ld (by decide) q h

/-- The float `v` is `+inf` (an overflowed intermediate; it never turns into a finite result again) or a finite value `≥ 1`
carrying at most `n` long-double roundings of the exact `x`. -/
def ApproxF (n : Nat) (x : ℚ) : Flt → Prop
  | .inf false => True
  | .fin w => RelN ld n x w ∧ 1 ≤ w
  | _ => False

theorem ApproxF.mono {n m : Nat} (h : n ≤ m) {x : ℚ} : ∀ {v : Flt}, ApproxF n x v → ApproxF m x v
  | .inf false, _ => trivial
  | .inf true, hv => hv.elim
  | .nan, hv => hv.elim
  | .fin _, ⟨⟨ρ, hw, hlo, hhi⟩, h1⟩ => by
    have hu := uro_pos ld
    have hu1 := uro_le_one ld
    exact ⟨⟨ρ, hw, (pow_le_pow_of_le_one (by linarith) (by linarith) h).trans hlo,
      hhi.trans (pow_le_pow_right₀ (by linarith) h)⟩, h1⟩

theorem ApproxF.atLeast {n : Nat} {x : ℚ} : ∀ {v : Flt}, ApproxF n x v → Flt.AtLeast 1 v
  | .inf false, _ => trivial
  | .fin _, h => h.2
  | .inf true, h => h.elim
  | .nan, h => h.elim

theorem ApproxF.exact {x : ℚ} (hx : 1 ≤ x) : ApproxF 0 x (Flt.fin x) := ⟨RelN.refl ld x, hx⟩

/-- `mul_RelN` on `ApproxF`, in long double: `+inf` absorbs; finite operands ≥ 1 keep the product ≥ 1, hence normal. -/
theorem mul_ApproxF {n m : Nat} {x y : ℚ} : ∀ {a b : Flt}, ApproxF n x a → ApproxF m y b →
    ApproxF (n + m + 1) (x * y) (Flt.mul ld a b) := by
  intro a b ha hb
  rcases Flt.AtLeast.mul_cases ld one_pos one_pos ha.atLeast hb.atLeast with h | ⟨p, q, rfl, rfl, hp, hq⟩
  · rw [h]; trivial
  · have hprod : 1 ≤ p * q := one_le_mul_of_one_le_of_one_le hp hq
    have hge := mul_ld_fin_ge_one hp hq
    rw [Flt.mul_fin] at hge ⊢
    rcases hge.cases with hv | ⟨v, hv, hv1⟩
    · rw [hv]; trivial
    · rw [hv]
      exact ⟨mul_RelN ld ha.1 hb.1 (by linarith [hprod] : p * q ≠ 0) (ld_normal_of_ge_one _ hprod) v hv, by simpa using hv1⟩

/-- (exact value, computed value, number of roundings so far) -/
abbrev Approx := ℚ × ℚ × Nat

def xprod : List Approx → ℚ
  | [] => 1
  | t :: r => t.1 * xprod r

/-- `Σ(nᵢ+1)`: the roundings of the factors and one per multiplication. -/
def nsum : List Approx → Nat
  | [] => 0
  | t :: r => (t.2.2 + 1) + nsum r

/-- `detail::product` in long double (`productF`).  Every factor is at least 1, so every partial product is in the normal range
and each multiplication adds exactly one rounding: if the factors carry `nᵢ` roundings of exact values `xᵢ`, the result carries
`Σ(nᵢ+1)` roundings of `Πxᵢ` (or is `+inf`). -/
theorem productF_ApproxF : ∀ (l : List Approx) (X : ℚ) (N : Nat) (acc w : Flt), ApproxF N X acc →
    (∀ t ∈ l, ApproxF t.2.2 t.1 (Flt.fin t.2.1)) → productF (l.map (fun t => Flt.fin t.2.1)) acc = some w →
    ApproxF (N + nsum l) (X * xprod l) w
  | [], X, N, acc, w, hacc, _, h => by
    cases h
    simpa [nsum, xprod] using hacc
  | t :: r, X, N, acc, w, hacc, hl, h => by
    have := productF_ApproxF r (X * t.1) (N + t.2.2 + 1) _ w (mul_ApproxF hacc (hl t (List.mem_cons_self ..)))
      (fun x hx => hl x (List.mem_cons_of_mem _ hx)) (productF_cons_some h)
    rwa [show N + t.2.2 + 1 + nsum r = N + nsum (t :: r) by simp [nsum]; omega,
      show X * t.1 * xprod r = X * xprod (t :: r) by simp [xprod]; ring] at this

theorem productF_RelN : ∀ (l : List Approx) (X A : ℚ) (N : Nat), RelN ld N X A → 1 ≤ A →
    (∀ t ∈ l, RelN ld t.2.2 t.1 t.2.1 ∧ 1 ≤ t.2.1) →
    ∀ w, productF (l.map (fun t => Flt.fin t.2.1)) (Flt.fin A) = some (Flt.fin w) →
      RelN ld (N + nsum l) (X * xprod l) w ∧ 1 ≤ w :=
  fun l X A N hA h1 hl w h => productF_ApproxF l X N (Flt.fin A) (Flt.fin w) ⟨hA, h1⟩ hl h

/-- **`checked_int_pow` in long double.**  If the running result carries `nr` roundings of `X^r` and the running base `nb`
roundings of `X^p`, then whatever the loop returns for the remaining exponent `e` carries at most `nr + e·(nb+1)` roundings of
`X^(r + p·e)` (or is `+inf`). -/
theorem cipLoopF_ApproxF (X : ℚ) : ∀ (e : Nat) (R B : Flt) (r p nr nb : Nat), ApproxF nr (X ^ r) R → ApproxF nb (X ^ p) B →
    ∀ v, cipLoopF R B e = some v → ApproxF (nr + e * (nb + 1)) (X ^ (r + p * e)) v := by
  intro e R B r p nr nb hR hB v hv
  refine cipLoopF_induct (motive := fun R B e v => ∀ r p nr nb, ApproxF nr (X ^ r) R → ApproxF nb (X ^ p) B →
    ApproxF (nr + e * (nb + 1)) (X ^ (r + p * e)) v) ?_ ?_ ?_ e R B v hv r p nr nb hR hB
  · intro R B r p nr nb hR _
    simpa using hR
  · intro R B q v ih r p nr nb hR hB
    have := ih (r + p) (p + p) (nr + nb + 1) (nb + nb + 1) (by simpa [pow_add] using mul_ApproxF hR hB)
      (by simpa [pow_add] using mul_ApproxF hB hB)
    rwa [show nr + nb + 1 + q * (nb + nb + 1 + 1) = nr + (2 * q + 1) * (nb + 1) by ring,
      show r + p + (p + p) * q = r + p * (2 * q + 1) by ring] at this
  · intro R B q v ih r p nr nb hR hB
    have := ih r (p + p) nr (nb + nb + 1) hR (by simpa [pow_add] using mul_ApproxF hB hB)
    rwa [show nr + q * (nb + nb + 1 + 1) = nr + 2 * q * (nb + 1) by ring,
      show r + (p + p) * q = r + p * (2 * q) by ring] at this

theorem checkedIntPowF_ApproxF {b : ℚ} (hb : 1 ≤ b) {e : Nat} {v : Flt} (h : checkedIntPowF (Flt.fin b) e = some v) :
    ApproxF e (b ^ e) v := by
  have := cipLoopF_ApproxF b e (Flt.fin 1) (Flt.fin b) 0 1 0 0 (by simpa using ApproxF.exact (le_refl 1))
    (by simpa using ApproxF.exact hb) v h
  simpa using this

/-- `checked_int_pow(b, e)` for an exactly represented base `b ≥ 1` returns, when finite, `b^e` with at most
`e` roundings: `|w − b^e| ≤ b^e·((1+2^-64)^e − 1)`. -/
theorem checkedIntPowF_RelN (b : ℚ) (hb : 1 ≤ b) (e : Nat) (w : ℚ) (h : checkedIntPowF (Flt.fin b) e = some (Flt.fin w)) :
    RelN ld e (b ^ e) w ∧ |w - b ^ e| ≤ b ^ e * ((1 + uro ld) ^ e - 1) :=
  have hrel : RelN ld e (b ^ e) w := (checkedIntPowF_ApproxF hb h).1
  ⟨hrel, RelN.abs_err ld (pow_nonneg (by linarith) e) hrel⟩

example : checkedIntPowF (Flt.fin 3) 0 = some (Flt.fin 1) := by unfold checkedIntPowF cipLoopF; simp

/-- The floating scaling step of a unit conversion (C05), `x * mag` in the operation's format `F`: a finite result in the normal
range is within the unit roundoff of the exact product.  (An end result of C05 that stands here because `C05.lean` is
Mathlib-free.) -/
theorem C05_float_scale_mul_err (F : FltTy) (x g w : ℚ) (hne : x * g ≠ 0) (hnormal : (2 : ℚ) ^ F.emin ≤ |x * g|)
    (h : Flt.mul F (.fin x) (.fin g) = .fin w) : |w - x * g| ≤ |x * g| * (2 : ℚ) ^ (-(F.prec : Int)) :=
  rne_rel_err F (x * g) hne hnormal w (Flt.mul_fin F x g ▸ h)

/-- Dividing by a finite non-zero factor, likewise. -/
theorem C05_float_scale_div_err (F : FltTy) (x g w : ℚ) (hg : g ≠ 0) (hne : x / g ≠ 0) (hnormal : (2 : ℚ) ^ F.emin ≤ |x / g|)
    (h : Flt.div F (.fin x) (.fin g) = .fin w) : |w - x / g| ≤ |x / g| * (2 : ℚ) ^ (-(F.prec : Int)) :=
  rne_rel_err F (x / g) hne hnormal w (by simpa [Flt.div, hg] using h)

end Au
