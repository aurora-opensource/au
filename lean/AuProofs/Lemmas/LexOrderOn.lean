import AuProofs.Lemmas.LexOrder

/-! # `LexicographicTotalOrdering` of strict weak orders, relative to a set of operands

The recursive key of the unit ordering (`OrderAsUnitProduct`) is only known to be well behaved on smaller units while
the induction over unit size runs, so everything is proved for keys that are strict weak orders on a set `S` (`SWOn`);
the absolute statements are the case `S = everything`. -/
namespace Au

variable {α : Type}

structure SWOn (S : α → Prop) (k : α → α → Bool) : Prop where
  irrefl : ∀ a, S a → k a a = false
  trans : ∀ a b c, S a → S b → S c → k a b = true → k b c = true → k a c = true
  tieTrans : ∀ a b c, S a → S b → S c → k a b = false → k b a = false → k b c = false → k c b = false →
    k a c = false ∧ k c a = false

theorem StrictWeak.on {k : α → α → Bool} (h : StrictWeak k) (S : α → Prop) : SWOn S k :=
  ⟨fun a _ => h.irrefl a, fun a b c _ _ _ => h.trans a b c, fun a b c _ _ _ => h.tieTrans a b c⟩

theorem SWOn.strictWeak {k : α → α → Bool} (h : SWOn (fun _ => True) k) : StrictWeak k :=
  ⟨fun a => h.irrefl a trivial, fun a b c => h.trans a b c trivial trivial trivial,
   fun a b c => h.tieTrans a b c trivial trivial trivial⟩

theorem SWOn.comap {β : Type} {S : α → Prop} {T : β → Prop} {k : α → α → Bool} (h : SWOn S k) (f : β → α)
    (hf : ∀ b, T b → S (f b)) : SWOn T (fun a b => k (f a) (f b)) :=
  ⟨fun a ha => h.irrefl (f a) (hf a ha), fun a b c ha hb hc => h.trans (f a) (f b) (f c) (hf a ha) (hf b hb) (hf c hc),
   fun a b c ha hb hc => h.tieTrans (f a) (f b) (f c) (hf a ha) (hf b hb) (hf c hc)⟩

theorem SWOn.mono {S T : α → Prop} {k : α → α → Bool} (h : SWOn S k) (hTS : ∀ a, T a → S a) : SWOn T k :=
  h.comap id hTS

theorem StrictWeak.comap {β : Type} {k : β → β → Bool} (h : StrictWeak k) (f : α → β) :
    StrictWeak (fun a b => k (f a) (f b)) :=
  ((h.on fun _ => True).comap f fun _ _ => trivial).strictWeak

theorem SWOn.negTrans {S : α → Prop} {k : α → α → Bool} (h : SWOn S k) {a b c : α} (ha : S a) (hb : S b) (hc : S c)
    (hac : k a c = true) : k a b = true ∨ k b c = true := by
  cases hab : k a b with
  | true => exact .inl rfl
  | false =>
    refine .inr ?_
    cases hba : k b a with
    | true => exact h.trans b a c hb ha hc hba hac
    | false =>
      cases hbc : k b c with
      | true => rfl
      | false =>
        cases hcb : k c b with
        | true => rw [h.trans a c b ha hc hb hac hcb] at hab; cases hab
        | false => rw [(h.tieTrans a b c ha hb hc hab hba hbc hcb).1] at hac; cases hac

theorem lexLt_cons_true (k : α → α → Bool) (ks : List (α → α → Bool)) (a b : α) :
    lexLt (k :: ks) a b = true ↔ k a b = true ∨ (k a b = false ∧ k b a = false) ∧ lexLt ks a b = true := by
  simp only [lexLt]; cases k a b <;> cases k b a <;> simp

theorem lexLt_cons_tie (k : α → α → Bool) (ks : List (α → α → Bool)) (a b : α) :
    lexLt (k :: ks) a b = false ∧ lexLt (k :: ks) b a = false ↔
      (k a b = false ∧ k b a = false) ∧ lexLt ks a b = false ∧ lexLt ks b a = false := by
  simp only [lexLt]; cases k a b <;> cases k b a <;> simp

theorem SWOn.lexNil (S : α → Prop) : SWOn S (lexLt []) :=
  ⟨fun _ _ => rfl, fun _ _ _ _ _ _ h _ => (nomatch h), fun _ _ _ _ _ _ _ _ _ _ => ⟨rfl, rfl⟩⟩

theorem SWOn.lexCons {S : α → Prop} {k : α → α → Bool} {ks : List (α → α → Bool)} (hk : SWOn S k)
    (hks : SWOn S (lexLt ks)) : SWOn S (lexLt (k :: ks)) where
  irrefl a ha := by simp [lexLt, hk.irrefl a ha, hks.irrefl a ha]
  trans a b c ha hb hc h1 h2 := by
    rw [lexLt_cons_true] at h1 h2 ⊢
    rcases h1 with h1 | ⟨⟨tab, tba⟩, h1⟩ <;> rcases h2 with h2 | ⟨⟨tbc, tcb⟩, h2⟩
    · exact .inl (hk.trans a b c ha hb hc h1 h2)
    · exact .inl ((hk.negTrans ha hc hb h1).resolve_right (by simp [tcb]))
    · exact .inl ((hk.negTrans hb ha hc h2).resolve_left (by simp [tba]))
    · exact .inr ⟨hk.tieTrans a b c ha hb hc tab tba tbc tcb, hks.trans a b c ha hb hc h1 h2⟩
  tieTrans a b c ha hb hc h1 h2 h3 h4 := by
    obtain ⟨⟨tab, tba⟩, lab, lba⟩ := (lexLt_cons_tie k ks a b).1 ⟨h1, h2⟩
    obtain ⟨⟨tbc, tcb⟩, lbc, lcb⟩ := (lexLt_cons_tie k ks b c).1 ⟨h3, h4⟩
    exact (lexLt_cons_tie k ks a c).2
      ⟨hk.tieTrans a b c ha hb hc tab tba tbc tcb, hks.tieTrans a b c ha hb hc lab lba lbc lcb⟩

theorem lexLt_SWOn (S : α → Prop) : ∀ keys : List (α → α → Bool), (∀ k ∈ keys, SWOn S k) → SWOn S (lexLt keys)
  | [], _ => .lexNil S
  | k :: ks, h =>
    .lexCons (h k (List.mem_cons_self ..)) (lexLt_SWOn S ks fun x hx => h x (List.mem_cons_of_mem _ hx))

theorem lexLt_strictWeak (keys : List (α → α → Bool)) (hk : ∀ k ∈ keys, StrictWeak k) : StrictWeak (lexLt keys) :=
  (lexLt_SWOn _ keys fun k h => (hk k h).on _).strictWeak

theorem lexLt_tie : ∀ (keys : List (α → α → Bool)) (a b : α), lexLt keys a b = false → lexLt keys b a = false →
    ∀ k ∈ keys, k a b = false ∧ k b a = false
  | k0 :: ks, a, b, h1, h2, k, hk => by
    obtain ⟨t, lab, lba⟩ := (lexLt_cons_tie k0 ks a b).1 ⟨h1, h2⟩
    rcases List.mem_cons.1 hk with rfl | hk
    · exact t
    · exact lexLt_tie ks a b lab lba k hk

/-- **`LexicographicTotalOrdering` is a strict total order** when every key is a strict weak order and no
two distinct operands tie on every key (the condition whose violation is the library's
"Broken strict total ordering" `static_assert`, and finding F10). -/
theorem lexLt_strictTotal (keys : List (α → α → Bool)) (hk : ∀ k ∈ keys, StrictWeak k)
    (tieFree : ∀ a b, (∀ k ∈ keys, k a b = false ∧ k b a = false) → a = b) : StrictTotal (lexLt keys) :=
  have h := lexLt_strictWeak keys hk
  ⟨h.irrefl, h.trans, fun a b h1 h2 => tieFree a b (lexLt_tie keys a b h1 h2)⟩

theorem lexLt_cons_congr {k : α → α → Bool} {ks ks' : List (α → α → Bool)} {a b : α}
    (h : k a b = false → k b a = false → lexLt ks a b = lexLt ks' a b) : lexLt (k :: ks) a b = lexLt (k :: ks') a b := by
  simp only [lexLt]
  cases hab : k a b with
  | true => rfl
  | false =>
    cases hba : k b a with
    | true => rfl
    | false => exact h hab hba

/-- `k` under a least element `none`: `packLt_eq_lexLt` reads `packLt` as this over `lexLt`, the empty pack sorting first. -/
def optLt {α : Type} (k : α → α → Bool) : Option α → Option α → Bool
  | none, some _ => true
  | some a, some b => k a b
  | _, none => false

theorem SWOn.option {α : Type} {S : α → Prop} {k : α → α → Bool} (h : SWOn S k) :
    SWOn (fun o : Option α => ∀ a ∈ o, S a) (optLt k) where
  irrefl
    | none, _ => rfl
    | some a, ha => h.irrefl a (ha a rfl)
  trans
    | none, _, some _, _, _, _, _, _ => rfl
    | some a, some b, some c, ha, hb, hc, h1, h2 => h.trans a b c (ha a rfl) (hb b rfl) (hc c rfl) h1 h2
    | _, some _, none, _, _, _, _, h2 => nomatch h2
    | _, none, none, _, _, _, _, h2 => nomatch h2
    | some _, none, _, _, _, _, h1, _ => nomatch h1
  tieTrans
    | none, none, none, _, _, _, _, _, _, _ => ⟨rfl, rfl⟩
    | some a, some b, some c, ha, hb, hc, h1, h2, h3, h4 =>
      h.tieTrans a b c (ha a rfl) (hb b rfl) (hc c rfl) h1 h2 h3 h4
    | none, some _, _, _, _, _, h1, _, _, _ => nomatch h1
    | some _, none, _, _, _, _, _, h2, _, _ => nomatch h2
    | _, none, some _, _, _, _, _, _, h3, _ => nomatch h3
    | _, some _, none, _, _, _, _, _, _, h4 => nomatch h4

/-- Induction on a size: the three laws speak of three operands at once, so the bound is on all of them. -/
theorem SWOn.of_measure {α : Type} {S : α → Prop} {k : α → α → Bool} (m : α → Nat)
    (step : ∀ n, SWOn (fun a => m a < n ∧ S a) k → SWOn (fun a => m a < n + 1 ∧ S a) k) : SWOn S k := by
  have h : ∀ n, SWOn (fun a => m a < n ∧ S a) k := fun n => by
    induction n with
    | zero => exact ⟨fun _ h => (nomatch h.1), fun _ _ _ h => (nomatch h.1), fun _ _ _ h => (nomatch h.1)⟩
    | succ n ih => exact step n ih
  exact ⟨fun a ha => (h (m a + 1)).irrefl a ⟨by omega, ha⟩,
    fun a b c ha hb hc => (h (m a + m b + m c + 1)).trans a b c ⟨by omega, ha⟩ ⟨by omega, hb⟩ ⟨by omega, hc⟩,
    fun a b c ha hb hc => (h (m a + m b + m c + 1)).tieTrans a b c ⟨by omega, ha⟩ ⟨by omega, hb⟩ ⟨by omega, hc⟩⟩

end Au
