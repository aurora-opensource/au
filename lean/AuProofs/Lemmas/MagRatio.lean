import AuProofs.Lemmas.MagValue

/-! # The ratio of two rational magnitudes as a natural number

Exponent-wise divisibility (`den m x ≥ den c x` at every base — what the C07 / C10 theorems prove about
`CommonMagnitude`) is divisibility of values: the quotient pack `m / c` then has positive integer
exponents only, its value is the natural number `Mag.natVal (m / c)`, and
`value m = natVal (m / c) · value c`. -/
namespace Au
open Pack

/-- Natural-number value of a magnitude all of whose exponents are positive integers (π ↦ 1). -/
def Mag.natVal (q : Mag) : Nat :=
  (q.map fun a => match a.1 with | .prime p => p ^ a.2.num.toNat | .pi => 1).prod

theorem natVal_cons (a : MagBase × Rat) (t : Mag) :
    Mag.natVal (a :: t) = (match a.1 with | .prime p => p ^ a.2.num.toNat | .pi => 1) * Mag.natVal t := by
  simp [Mag.natVal]

theorem natCast_zpow_of_nonneg (p : Nat) {n : Int} (h : 0 ≤ n) : (p : Rat) ^ n = ((p ^ n.toNat : Nat) : Rat) := by
  obtain ⟨k, rfl⟩ := Int.eq_ofNat_of_zero_le h
  simp

theorem qval_eq_natVal (piv : Rat) : ∀ (q : Mag), Mag.PiFree q → (∀ a ∈ q, 0 < a.2) →
    Mag.qval piv q = (Mag.natVal q : Rat)
  | [], _, _ => by simp [Mag.qval_nil, Mag.natVal]
  | a :: t, hf, hpos => by
    have ih := qval_eq_natVal piv t (fun x hx => hf x (List.mem_cons_of_mem _ hx))
      (fun x hx => hpos x (List.mem_cons_of_mem _ hx))
    have hn : 0 < a.2.num := Rat.num_pos.2 (hpos a (List.mem_cons_self ..))
    rw [Mag.qval_cons, natVal_cons, ih]
    cases hb : a.1 with
    | pi => exact absurd hb (hf a (List.mem_cons_self ..))
    | prime p => simp only [bval, hb, MagBase.qv, natCast_zpow_of_nonneg p hn.le, Nat.cast_mul]

theorem qval_eq_natVal_div_mul (piv : Rat) (hpi : 0 < piv) (m c : Mag) (hm : Mag.Rational m) (hc : Mag.Rational c)
    (hdiv : ∀ x, 0 ≤ den m x - den c x) :
    Mag.qval piv m = (Mag.natVal (Mag.div m c) : Rat) * Mag.qval piv c := by
  obtain ⟨rq, vq⟩ := rational_div piv hpi m c hm hc
  rw [← qval_eq_natVal piv _ rq.free (div_exps_pos MagBase.lt_strictTotal m c hm.valid hc.valid hdiv), vq,
    _root_.mul_assoc, inv_mul_cancel₀ (qval_pos piv hpi c hc.pos).ne', mul_one]

theorem natVal_div_pos (m c : Mag) (hm : Mag.Rational m) (hc : Mag.Rational c)
    (hdiv : ∀ x, 0 ≤ den m x - den c x) : 0 < Mag.natVal (Mag.div m c) := by
  -- `natVal` has no π: any positive value serves for `piv`
  obtain ⟨rq, _⟩ := rational_div 1 one_pos m c hm hc
  have h := qval_eq_natVal 1 _ rq.free (div_exps_pos MagBase.lt_strictTotal m c hm.valid hc.valid hdiv)
  exact Nat.cast_pos.1 (h ▸ qval_pos 1 one_pos _ rq.pos)

theorem rational_ratio_posInt (piv : Rat) (hpi : 0 < piv) (m c : Mag) (hm : Mag.Rational m) (hc : Mag.Rational c)
    (hdiv : ∀ x, 0 ≤ den m x - den c x) :
    ∃ k : Nat, 0 < k ∧ Mag.qval piv m = (k : Rat) * Mag.qval piv c :=
  ⟨_, natVal_div_pos m c hm hc hdiv, qval_eq_natVal_div_mul piv hpi m c hm hc hdiv⟩

/-- **Exponent-wise divisibility is divisibility of values**: if every base has at least the
exponent in `m` that it has in `c` (both valid, integer exponents, π-free, positive bases), then the
value of `m` is a positive-integer multiple of the value of `c` (`rational_ratio_posInt` with the
structure unpacked). -/
theorem qval_ratio_posInt (piv : Rat) (hpi : 0 < piv) (m c : Mag)
    (vm : Valid MagBase.lt m) (vc : Valid MagBase.lt c)
    (im : Mag.IntExp m) (ic : Mag.IntExp c) (pm : Mag.PosBases m) (pc : Mag.PosBases c)
    (fm : Mag.PiFree m) (fc : Mag.PiFree c)
    (hdiv : ∀ x, 0 ≤ den m x - den c x) :
    ∃ k : Nat, 0 < k ∧ Mag.qval piv m = (k : Rat) * Mag.qval piv c :=
  rational_ratio_posInt piv hpi m c ⟨vm, im, pm, fm⟩ ⟨vc, ic, pc, fc⟩ hdiv

end Au
