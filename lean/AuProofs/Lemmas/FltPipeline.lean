/-
  The long-double `get_value_result` pipeline on integer magnitudes.

  `intMagF_induct` says what the pipeline computes for an integer magnitude `Π pᵢ^eᵢ` when it returns a value: starting from 1
  it multiplies, base by base, by `checked_int_pow(pᵢ, eᵢ)` (the base conversion is exact for `p < 2^64`).  A property of the
  result is proved along these steps and those of `cipLoopF_induct`.

  First use: no rounding step takes a value below a power of two it started above, so the pipeline's value of an integer
  magnitude other than ONE is at least 2 (`magAsDoubleLeOne_false`, which the implicit-conversion policy relies on).
  Second use: far below the overflow threshold the guards of `checked_int_pow` do not fire (`cipLoopF_eq_sqmulF`), which lets
  `C11_F6_fixed` be evaluated without them.
-/
import AuProofs.Lemmas.FltBounds
import AuProofs.Lemmas.GetValue
import AuModel.Policy

namespace Au

theorem mul_ld_atLeast (i j : Nat) (x y : Flt) (hx : Flt.AtLeast ((2 ^ i : Nat) : Rat) x)
    (hy : Flt.AtLeast ((2 ^ j : Nat) : Rat) y) :
    Flt.AtLeast ((2 ^ (i + j) : Nat) : Rat) (Flt.mul ld x y) := by
  have hi : (0 : Rat) < ((2 ^ i : Nat) : Rat) := by positivity
  have hj : (0 : Rat) < ((2 ^ j : Nat) : Rat) := by positivity
  rcases Flt.AtLeast.mul_cases ld hi hj hx hy with h | ⟨a, b, rfl, rfl, ha, hb⟩
  · rw [h]; trivial
  · apply rne_atLeast_pow2 ld (by decide) (by decide)
    rw [Nat.pow_add, Nat.cast_mul]
    exact mul_le_mul ha hb hj.le (hi.le.trans ha)

theorem mul_ld_fin_ge_one {a b : Rat} (ha : 1 ≤ a) (hb : 1 ≤ b) : Flt.AtLeast 1 (Flt.mul ld (.fin a) (.fin b)) := by
  simpa using mul_ld_atLeast 0 0 (.fin a) (.fin b) (by simpa [Flt.AtLeast] using ha) (by simpa [Flt.AtLeast] using hb)

theorem cipLoopF_atLeast {e : Nat} {r b v : Flt} (hv : cipLoopF r b e = some v) : ∀ i j,
    Flt.AtLeast ((2 ^ i : Nat) : Rat) r → Flt.AtLeast ((2 ^ j : Nat) : Rat) b → Flt.AtLeast ((2 ^ (i + j * e) : Nat) : Rat) v := by
  refine cipLoopF_induct (motive := fun r b e v => ∀ i j, Flt.AtLeast ((2 ^ i : Nat) : Rat) r →
    Flt.AtLeast ((2 ^ j : Nat) : Rat) b → Flt.AtLeast ((2 ^ (i + j * e) : Nat) : Rat) v) ?_ ?_ ?_ e r b v hv
  · intro r b i j hr _
    exact hr
  · intro r b q v ih i j hr hb
    have := ih (i + j) (j + j) (mul_ld_atLeast i j r b hr hb) (mul_ld_atLeast j j b b hb hb)
    rwa [show i + j + (j + j) * q = i + j * (2 * q + 1) by ring] at this
  · intro r b q v ih i j hr hb
    have := ih i (j + j) hr (mul_ld_atLeast j j b b hb hb)
    rwa [show i + (j + j) * q = i + j * (2 * q) by ring] at this

/-- Well-formed prime bases: `2 ≤ p < 2^64` (what `Prime<N>`'s `static_assert(is_prime(N))` and
`std::uintmax_t` guarantee for every magnitude the library can form). -/
def Mag.PrimesOK (m : Mag) : Prop := ∀ a ∈ m, ∀ p, a.1 = .prime p → 2 ≤ p ∧ p < 2 ^ 64

theorem magPowerF_of_int {a : MagBase × Rat} {p : Nat} (hb : a.1 = .prime p) (hp : p < 2 ^ 64) (hden : a.2.den = 1)
    (h1 : 1 ≤ a.2) : magPowerF a = checkedIntPowF (Flt.fin p) a.2.num.natAbs := by
  obtain ⟨hprec, hmax, hemin⟩ := ofInt_exact_conditions ld (by decide)
  have hu : IntTy.u64.inRange (p : Int) := ⟨Int.natCast_nonneg p, show (p : Int) ≤ 2 ^ 64 - 1 by omega⟩
  unfold magPowerF
  simp only [hb]
  rw [wrap_of_inRange IntTy.u64 (by decide) p hu, basePowerValueF_of_int _ _ hden h1,
    ofInt_exact ld hprec hmax hemin p (by simpa [ld, FltTy.f80] using hp.le), Int.cast_natCast]

/-- `cons` is handed, for the next element: its prime `p ≥ 2`, an exponent `≥ 1`, and the value `x` its power loop returned. -/
theorem intMagF_induct {motive : Mag → Flt → Flt → Prop}
    (nil : ∀ acc, motive [] acc acc)
    (cons : ∀ (a : MagBase × Rat) (s : Mag) (p : Nat) (acc x w : Flt), a.1 = .prime p → 2 ≤ p → 1 ≤ a.2.num.natAbs →
      checkedIntPowF (Flt.fin p) a.2.num.natAbs = some x → motive s (Flt.mul ld acc x) w → motive (a :: s) acc w) :
    ∀ (m : Mag), Mag.isIntegerMag m = true → Mag.PrimesOK m → (m.map magPowerF).any (·.isNone) = false →
      ∀ acc w, productF ((m.map magPowerF).filterMap id) acc = some w → motive m acc w
  | [], _, _, _, acc, w, hw => by
    cases hw
    exact nil acc
  | a :: s, hint, hok, hany, acc, w, hw => by
    obtain ⟨⟨⟨p, hb⟩, hden, h1⟩, hs⟩ := Mag.isIntegerMag_cons.1 hint
    obtain ⟨hp2, hp64⟩ := hok a (List.mem_cons_self ..) p hb
    rw [List.map_cons, List.any_cons, Bool.or_eq_false_iff] at hany
    cases hx : magPowerF a with
    | none => simp [hx] at hany
    | some x =>
      rw [List.map_cons, hx, List.filterMap_cons_some (f := id) (b := x) rfl] at hw
      have := one_le_num_toNat a.2 hden h1
      exact cons a s p acc x w hb hp2 (by omega) (magPowerF_of_int hb hp64 hden h1 ▸ hx)
        (intMagF_induct nil cons s hs (fun y hy => hok y (List.mem_cons_of_mem _ hy)) hany.2 _ w
          (productF_cons_some hw))

/-- Each factor of an integer magnitude is at least 2, so the running product at least doubles at every base. -/
theorem intMagF_atLeast {m : Mag} (hint : Mag.isIntegerMag m = true) (hok : Mag.PrimesOK m)
    (hany : (m.map magPowerF).any (·.isNone) = false) {acc w : Flt}
    (hw : productF ((m.map magPowerF).filterMap id) acc = some w) :
    ∀ i, Flt.AtLeast ((2 ^ i : Nat) : Rat) acc → Flt.AtLeast ((2 ^ (i + m.length) : Nat) : Rat) w := by
  refine intMagF_induct (motive := fun m acc w => ∀ i, Flt.AtLeast ((2 ^ i : Nat) : Rat) acc →
    Flt.AtLeast ((2 ^ (i + m.length) : Nat) : Rat) w) ?_ ?_ m hint hok hany acc w hw
  · intro acc i h
    exact h
  · intro a s p acc x w _ hp he hx ih i hacc
    have h2 : Flt.AtLeast ((2 ^ 1 : Nat) : Rat) x :=
      (cipLoopF_atLeast hx 0 1 (by simp [Flt.AtLeast]) (by simpa [Flt.AtLeast] using hp)).pow2_mono (by omega)
    have := ih (i + 1) (mul_ld_atLeast i 1 acc x hacc h2)
    rwa [show i + 1 + s.length = i + (a :: s).length by simp; ring] at this

/-- For an integer magnitude with well-formed prime bases that is not ONE, `get_value_result<double>` is never OK with a
value ≤ 1.0 — every rounding step of the long-double pipeline (base conversion, checked_int_pow, product, final cast to
double) keeps the value at least 2. -/
theorem magAsDoubleLeOne_false (sf : Mag) (hne : sf ≠ []) (hint : Mag.isIntegerMag sf = true)
    (hok : Mag.PrimesOK sf) : magAsDoubleLeOne sf = false := by
  unfold magAsDoubleLeOne
  split
  · rename_i v hv
    obtain ⟨w, hany, hw, -, -, rfl⟩ := getValueResultFlt_of_ok hne hv
    have hw2 : Flt.AtLeast ((2 ^ 1 : Nat) : Rat) w :=
      (intMagF_atLeast hint hok hany hw 0 (by simp [Flt.AtLeast])).pow2_mono
        (by have := List.length_pos_of_ne_nil hne; omega)
    exact (cast_atLeast_pow2 FltTy.f64 (by decide) (by decide) 1 hw2).not_le (by norm_num)
  · rfl

/-- The square-and-multiply of `checked_int_pow<long double>` without its two overflow guards (`fuel ≥ e` suffices): what the
kernel evaluates in `C11_F6_fixed` instead of the guards' divisions of the 16384-bit `ldMax`. -/
def sqmulF : Nat → Flt → Flt → Nat → Flt
  | 0, r, _, _ => r
  | fuel + 1, r, b, e =>
    if e = 0 then r else sqmulF fuel (if e % 2 = 1 then Flt.mul ld r b else r) (Flt.mul ld b b) (e / 2)

/-- `16383 = ld.emax`: the powers of two that are long doubles. -/
theorem pow2_le_ldMax {k : Nat} (hk : k ≤ 16383) : 2 ^ k ≤ ld.maxNat :=
  (Nat.pow_le_pow_right (by norm_num) hk).trans (by decide +kernel)

/-- The bound under which neither guard of `checked_int_pow<long double>` fires: finite, and between 1 and `2^i`. -/
def Flt.Within (i : Nat) (x : Flt) : Prop := ∃ w, x = .fin w ∧ 1 ≤ w ∧ w ≤ ((2 ^ i : Nat) : Rat)

theorem Flt.Within.mul {i j : Nat} {x y : Flt} (hx : Flt.Within i x) (hy : Flt.Within j y) (h : i + j ≤ 16383) :
    Flt.Within (i + j) (Flt.mul ld x y) := by
  obtain ⟨a, rfl, a1, a2⟩ := hx
  obtain ⟨b, rfl, b1, b2⟩ := hy
  have h1 : 1 ≤ a * b := one_le_mul_of_one_le_of_one_le a1 b1
  obtain ⟨w, hw, hle⟩ := rne_atMost_pow2 ld (by decide) (by decide) (a * b) (i + j) (by linarith)
    (by rw [Nat.pow_add, Nat.cast_mul]; exact mul_le_mul a2 b2 (by linarith) (by positivity)) (pow2_le_ldMax h)
  have hge := mul_ld_fin_ge_one a1 b1
  rw [Flt.mul_fin, hw] at hge
  exact ⟨w, hw, hge, hle⟩

/-- The overflow guard `b > max / r` does not fire while the bounds of `r` and `b` multiply to a long double: `max / r ≥ 2^j`
does not round below `2^j ≥ b`. -/
theorem Flt.Within.guard {i j : Nat} {r b : Flt} (hr : Flt.Within i r) (hb : Flt.Within j b) (h : i + j ≤ 16383) :
    Flt.gt b (Flt.div ld ldMax r) = false := by
  obtain ⟨a, rfl, a1, a2⟩ := hr
  obtain ⟨c, rfl, c1, c2⟩ := hb
  have ha : (0 : ℚ) < a := by linarith
  have hq : ((2 ^ j : Nat) : ℚ) ≤ ld.maxFinite / a := by
    rw [le_div_iff₀ ha]
    calc ((2 ^ j : Nat) : ℚ) * a ≤ ((2 ^ j : Nat) : ℚ) * ((2 ^ i : Nat) : ℚ) := mul_le_mul_of_nonneg_left a2 (by positivity)
      _ ≤ ld.maxFinite := by
        have := pow2_le_ldMax h
        unfold FltTy.maxFinite; rw [Nat.add_comm, Nat.pow_add] at this; exact_mod_cast this
  have hdiv : Flt.div ld ldMax (Flt.fin a) = rne ld (ld.maxFinite / a) := by simp [Flt.div, ldMax, Flt.maxOf, ha.ne']
  rw [hdiv]
  rcases (rne_atLeast_pow2 ld (by decide) (by decide) _ j hq).cases with hv | ⟨v, hv, hjv⟩
  · rw [hv]; rfl
  · simp [hv, Flt.gt, Flt.lt, not_lt.2 (c2.trans hjv)]

/-- **`checked_int_pow` in long double succeeds far below the overflow threshold**: with `1 ≤ r ≤ 2^i`, `1 ≤ b ≤ 2^j` and
`2^(i+j·e)` a long double, neither guard fires (`Flt.Within.guard`; the bound `i + j·e` is invariant along the loop), and the
result is that of the plain square-and-multiply. -/
theorem cipLoopF_eq_sqmulF : ∀ (e fuel : Nat) (r b : Flt) (i j : Nat), e ≤ fuel → Flt.Within i r → Flt.Within j b →
    i + j * e ≤ 16383 → cipLoopF r b e = some (sqmulF fuel r b e) := by
  intro e
  induction e using Nat.strongRecOn with
  | ind e ih =>
    intro fuel r b i j hf hr hb hK
    unfold cipLoopF
    split
    · rename_i he
      subst he
      cases fuel <;> simp [sqmulF]
    · rename_i he
      obtain ⟨fuel, rfl⟩ : ∃ f, fuel = f + 1 := ⟨fuel - 1, by omega⟩
      have hje : j ≤ j * e := Nat.le_mul_of_pos_right j (by omega)
      have hsplit : j * e = (j + j) * (e / 2) + j * (e % 2) := by
        conv_lhs => rw [← Nat.div_add_mod e 2]
        rw [Nat.mul_add, ← Nat.mul_assoc, Nat.mul_two]
      have hr' : Flt.Within (i + j * (e % 2)) (if e % 2 = 1 then Flt.mul ld r b else r) := by
        rcases Nat.mod_two_eq_zero_or_one e with h | h
        · simpa [h] using hr
        · simpa [h] using hr.mul hb (by omega)
      have hstep : (if e % 2 = 1 then (if Flt.gt b (Flt.div ld ldMax r) then none else some (Flt.mul ld r b)) else some r)
          = some (if e % 2 = 1 then Flt.mul ld r b else r) := by
        split
        · rw [hr.guard hb (by omega)]; rfl
        · rfl
      rw [hstep]
      simp only [sqmulF, if_neg he]
      by_cases h0 : e / 2 = 0
      · -- last iteration: both branches of the second guard return the result
        rw [h0]
        cases fuel <;> split <;> simp [sqmulF, cipLoopF]
      · have h2 : 2 ≤ e := by omega
        have hjj : j + j ≤ j * e := by rw [← Nat.mul_two]; exact Nat.mul_le_mul_left j h2
        rw [hb.guard hb (by omega)]
        exact ih (e / 2) (by omega) fuel _ _ _ (j + j) (by omega) hr'
          (hb.mul hb (by omega))
          (by omega)

end Au
