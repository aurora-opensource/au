/-
  Primality certificates (Lucas / Pratt) evaluated with the *verified* `powMod` model: used to prove,
  inside Lean, that a concrete 64-bit number on which the library's `is_prime` answered "composite"
  before fix F19 is in fact prime.
-/
import AuProofs.Lemmas.Mod
import Mathlib.NumberTheory.LucasPrimality
import Mathlib.Tactic.NormNum.Prime
namespace Au
namespace U64

theorem zmod_pow_eq_one_iff (p a e : Nat) (hp : 1 < p) : ((a : ZMod p) ^ e = 1) ↔ a ^ e % p = 1 := by
  have h : ((a : ZMod p) ^ e = 1) ↔ (((a ^ e : ℕ) : ZMod p) = ((1 : ℕ) : ZMod p)) := by
    push_cast
    exact Iff.rfl
  rw [h, ZMod.natCast_eq_natCast_iff', Nat.mod_eq_of_lt hp]

/-- Lucas primality test with the modular powers computed by the verified model of `pow_mod`, and
the prime factorisation of `p - 1` given as a list of (prime, exponent). -/
theorem prime_of_lucas_cert (p a : Nat) (fs : List (Nat × Nat)) (hp : 1 < p) (hp64 : p < 2 ^ 64)
    (hfs : ∀ f ∈ fs, f.1.Prime) (hfac : p - 1 = (fs.map fun f => f.1 ^ f.2).prod)
    (h1 : (powMod a (p - 1) p).val = 1)
    (hq : ∀ f ∈ fs, (powMod a ((p - 1) / f.1) p).val ≠ 1) : p.Prime := by
  have key : ∀ e, (powMod a e p).val = 1 ↔ (a : ZMod p) ^ e = 1 := fun e => by
    rw [powMod_spec hp hp64, zmod_pow_eq_one_iff p a e hp]
  refine lucas_primality p a ((key _).1 h1) fun q hqp hqd => ?_
  rw [hfac, hqp.prime.dvd_prod_iff] at hqd
  obtain ⟨_, hx, hqx⟩ := hqd
  obtain ⟨f, hf, rfl⟩ := List.mem_map.1 hx
  obtain rfl := (Nat.prime_dvd_prime_iff_eq hqp (hfs f hf)).1 (hqp.dvd_of_dvd_pow hqx)
  exact mt (key _).2 (hq f hf)

theorem prime_550379 : Nat.Prime 550379 := by norm_num
theorem prime_4219 : Nat.Prime 4219 := by norm_num
theorem prime_743 : Nat.Prime 743 := by norm_num
theorem prime_37 : Nat.Prime 37 := by norm_num

/- In the certificates the factors are shown prime by `simp` with the earlier certificates: `norm_num`
would not use them, but try each factor by trial division (many minutes for the large ones, then
the kernel gives up on the proof term). -/
theorem prime_363250141 : Nat.Prime 363250141 :=
  prime_of_lucas_cert _ 2 [(2, 2), (3, 1), (5, 1), (11, 1), (550379, 1)] (by decide) (by decide)
    (by simp [Nat.prime_two, Nat.prime_three, Nat.prime_five, Nat.prime_eleven, prime_550379]) (by norm_num)
    (by decide +kernel) (by decide +kernel)

theorem prime_79888877009849 : Nat.Prime 79888877009849 :=
  prime_of_lucas_cert _ 3 [(2, 3), (37, 1), (743, 1), (363250141, 1)] (by decide) (by decide)
    (by simp [Nat.prime_two, prime_37, prime_743, prime_363250141]) (by norm_num)
    (by decide +kernel) (by decide +kernel)

/-- The 64-bit prime on which `is_perfect_square` (hence `strong_lucas`, `baillie_psw`, `is_prime`)
answered wrongly before fix F19. -/
theorem prime_10785637507345693793 : Nat.Prime 10785637507345693793 :=
  prime_of_lucas_cert _ 3 [(2, 5), (4219, 1), (79888877009849, 1)] (by decide) (by decide)
    (by simp [Nat.prime_two, prime_4219, prime_79888877009849]) (by norm_num)
    (by decide +kernel) (by decide +kernel)

end U64
end Au
