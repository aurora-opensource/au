import AuModel.Unit
import AuProofs.Lemmas.Pack
import AuProofs.Lemmas.Mag
/-! Well-formed units (`HGood`) are closed under `U.mul`, `U.pow`, `U.scale` and expression trees (`HGood.mul`,
`.pow`, `.scale`, `.eval`).  `GoodPack` is their pack form; `GoodPack.asPack_ofPack` is the key to equalities of
unit terms.  `PackSem` is the interface behind `C02_dim_mag_exact`: `DimT` and `MagT` (instances
`PackSem.dimOf`, `PackSem.magOf`) commute with product and power as equalities of packs (`PackSem.mul`,
`PackSem.pow`); `U.qEquiv_iff`. -/
namespace Au
open Pack

theorem UL.toList_ofList : (l : List (U × Rat)) → (UL.ofList l).toList = l
  | [] => rfl
  | (u, q) :: t => by simp [UL.ofList, UL.toList, UL.toList_ofList t]

theorem UL.ofList_toList : (ps : UL) → UL.ofList ps.toList = ps
  | .nil => rfl
  | .cons u q t => by simp [UL.toList, UL.ofList, UL.ofList_toList t]

theorem UL.dimOf_eq_interp (env : Env) : (ps : UL) → UL.dimOf env ps = interp dimLt (U.dimOf env) ps.toList
  | .nil => by simp [UL.dimOf, UL.toList, interp]
  | .cons u q t => by simp [UL.dimOf, UL.toList, interp, Dim.mul, UL.dimOf_eq_interp env t]

theorem UL.magOf_eq_interp (env : Env) : (ps : UL) → UL.magOf env ps = interp MagBase.lt (U.magOf env) ps.toList
  | .nil => by simp [UL.magOf, UL.toList, interp]
  | .cons u q t => by simp [UL.magOf, UL.toList, interp, Mag.mul, UL.magOf_eq_interp env t]

section
variable {lt : U → U → Bool}

/-- What `AsPackT` makes of a well-formed unit, and what `UnpackIfSoloT` turns back into one. -/
structure GoodPack (lt : U → U → Bool) (p : Pack U) : Prop where
  valid : Valid lt p
  noProd : ∀ y ∈ p, y.1.isProd = false
  good : ∀ y ∈ p, HGood lt y.1

theorem HGood.asPack {u : U} (h : HGood lt u) : GoodPack lt u.asPack := by
  have single : u.isProd = false → GoodPack lt [(u, 1)] := fun hn =>
    ⟨valid_cons (fun _ hy => nomatch hy) (by decide) valid_nil,
      List.forall_mem_singleton.2 hn, List.forall_mem_singleton.2 h⟩
  cases h with
  | prod ps hv hn hg => exact ⟨hv, hn, hg⟩
  | _ => exact single rfl

theorem GoodPack.ofPack {p : Pack U} (h : GoodPack lt p) : HGood lt (U.ofPack p) := by
  have hprod : HGood lt (.prod (UL.ofList p)) := by
    refine .prod _ ?_ ?_ ?_ <;> rw [UL.toList_ofList]
    · exact h.valid
    · exact h.noProd
    · exact h.good
  unfold U.ofPack
  split
  next u q =>
    split
    · exact h.good (u, q) (List.mem_cons_self ..)
    · exact hprod
  · exact hprod

/-- The bases are not products, so `AsPackT` flattens nothing. -/
theorem GoodPack.asPack_ofPack {p : Pack U} (h : GoodPack lt p) : (U.ofPack p).asPack = p := by
  unfold U.ofPack
  split
  next u q =>
    split
    next hq =>
      subst hq
      have := h.noProd (u, 1) (List.mem_cons_self ..)
      cases u <;> simp [U.isProd] at this <;> simp [U.asPack]
    · simp [U.asPack, UL.toList_ofList]
  · simp [U.asPack, UL.toList_ofList]

theorem GoodPack.mul (hlt : StrictTotal lt) {a b : Pack U} (ha : GoodPack lt a) (hb : GoodPack lt b) :
    GoodPack lt (Pack.mul lt a b) :=
  ⟨mul_valid hlt a b ha.valid hb.valid, forall_base_mul hlt (U.isProd · = false) ha.noProd hb.noProd,
    forall_base_mul hlt (HGood lt) ha.good hb.good⟩

theorem GoodPack.pow {a : Pack U} (ha : GoodPack lt a) (q : Rat) : GoodPack lt (a.pow q) :=
  ⟨pow_valid a q ha.valid, forall_base_pow (U.isProd · = false) ha.noProd q, forall_base_pow (HGood lt) ha.good q⟩

theorem HGood.mul (hlt : StrictTotal lt) {a b : U} (ha : HGood lt a) (hb : HGood lt b) :
    HGood lt (U.mul lt a b) := (GoodPack.mul hlt ha.asPack hb.asPack).ofPack

theorem HGood.pow {a : U} (ha : HGood lt a) (q : Rat) : HGood lt (a.pow q) := (ha.asPack.pow q).ofPack

theorem HGood.scale {u : U} (h : HGood lt u) (m : Mag) (hm : Valid MagBase.lt m) : HGood lt (u.scale m) := by
  unfold U.scale
  split
  next v old =>
    cases h with
    | scaled _ _ hv ho =>
      dsimp only
      split
      · exact hv
      · exact .scaled v _ hv (mul_valid MagBase.lt_strictTotal _ _ ho hm)
  · split
    · exact h
    · exact .scaled u m h hm

theorem HGood.eval (hlt : StrictTotal lt) :
    (e : UExpr) → (∀ u ∈ e.atoms, HGood lt u) → (∀ m ∈ e.scales, Valid MagBase.lt m) → HGood lt (e.eval lt)
  | .atom u, h, _ => h u (List.mem_singleton_self u)
  | .mul a b, h, hs =>
    have ⟨ha, hb⟩ := List.forall_mem_append.1 h
    have ⟨hsa, hsb⟩ := List.forall_mem_append.1 hs
    (HGood.eval hlt a ha hsa).mul hlt (HGood.eval hlt b hb hsb)
  | .div a b, h, hs =>
    have ⟨ha, hb⟩ := List.forall_mem_append.1 h
    have ⟨hsa, hsb⟩ := List.forall_mem_append.1 hs
    (HGood.eval hlt a ha hsa).mul hlt ((HGood.eval hlt b hb hsb).pow (-1))
  | .pow a q, h, hs => (HGood.eval hlt a h hs).pow q
  | .scale a m, h, hs =>
    have ⟨hm, hsa⟩ := List.forall_mem_cons.1 hs
    (HGood.eval hlt a h hsa).scale m hm

theorem UL.mags_valid (env : Env) : (us : UL) → (∀ y ∈ us.toList, Valid MagBase.lt (y.1.magOf env)) →
    ∀ m ∈ UL.mags env us, Valid MagBase.lt m
  | .nil, _ => fun _ hm => nomatch hm
  | .cons _ _ t, h =>
    have ⟨hu, ht⟩ := List.forall_mem_cons.1 h
    List.forall_mem_cons.2 ⟨hu, UL.mags_valid env t ht⟩

theorem HGood.dim_mag_valid (env : Env) (hw : env.WF) {u : U} (h : HGood lt u) :
    Valid dimLt (u.dimOf env) ∧ Valid MagBase.lt (u.magOf env) := by
  have common : ∀ us : UL, (∀ y ∈ us.toList, Valid dimLt (y.1.dimOf env) ∧ Valid MagBase.lt (y.1.magOf env)) →
      Valid dimLt (UL.dimHead env us) ∧ Valid MagBase.lt (Mag.commonAll (UL.mags env us)) := fun us ih =>
    ⟨by cases us with
        | nil => exact valid_nil
        | cons u q t => exact (ih (u, q) (List.mem_cons_self ..)).1,
      Mag.commonAll_valid _ (UL.mags_valid env us (fun y hy => (ih y hy).2))⟩
  induction h with
  | named n => exact ⟨hw.dim n, hw.mag n⟩
  | scaled v m hv hm ih => exact ⟨ih.1, mul_valid MagBase.lt_strictTotal _ _ ih.2 hm⟩
  | common us hu ih => exact common us ih
  | commonPoint us hu ih => exact common us ih
  | prod ps hv hn hg ih =>
    rw [U.dimOf, U.magOf, UL.dimOf_eq_interp, UL.magOf_eq_interp]
    exact ⟨interp_valid dimLt_strictTotal _ _ (fun y hy => (ih y hy).1),
      interp_valid MagBase.lt_strictTotal _ _ (fun y hy => (ih y hy).2)⟩

theorem HGood.dimOf_valid {env : Env} (hw : env.WF) {u : U} (h : HGood lt u) : Valid dimLt (u.dimOf env) :=
  (h.dim_mag_valid env hw).1

theorem HGood.magOf_valid {env : Env} (hw : env.WF) {u : U} (h : HGood lt u) : Valid MagBase.lt (u.magOf env) :=
  (h.dim_mag_valid env hw).2

/-- What `DimT` and `MagT` have in common. -/
structure PackSem (lt : U → U → Bool) {γ : Type} [DecidableEq γ] (ltg : γ → γ → Bool) (F : U → Pack γ) :
    Prop where
  strict : StrictTotal ltg
  prod : ∀ ps, F (.prod ps) = interp ltg F ps.toList
  valid : ∀ {u}, HGood lt u → Valid ltg (F u)

theorem PackSem.dimOf (lt : U → U → Bool) (env : Env) (hw : env.WF) : PackSem lt dimLt (U.dimOf env) :=
  ⟨dimLt_strictTotal, UL.dimOf_eq_interp env, fun h => h.dimOf_valid hw⟩

theorem PackSem.magOf (lt : U → U → Bool) (env : Env) (hw : env.WF) : PackSem lt MagBase.lt (U.magOf env) :=
  ⟨MagBase.lt_strictTotal, UL.magOf_eq_interp env, fun h => h.magOf_valid hw⟩

-- Trap: in this namespace `mul`, `pow` (and any `mul_comm` added here) shadow those of the opened `Pack`;
-- write `Pack.mul`, `Pack.pow`, `Pack.mul_comm` in full.
namespace PackSem
variable {γ : Type} [DecidableEq γ] {ltg : γ → γ → Bool} {F : U → Pack γ} (S : PackSem lt ltg F)
include S

theorem asPack (u : U) : interp ltg F u.asPack = F u := by
  cases u <;> first | exact (S.prod _).symm | simp [U.asPack, interp, Pack.pow_exp_one, mul_nil_right]

theorem ofPack {p : Pack U} (h : GoodPack lt p) : F (U.ofPack p) = interp ltg F p := by
  rw [← S.asPack, h.asPack_ofPack]

/-- `DimT<UnitProductT<A, B>>` is `DimProductT<DimT<A>, DimT<B>>`, and likewise for `MagT`. -/
theorem mul (hlt : StrictTotal lt) {a b : U} (ha : HGood lt a) (hb : HGood lt b) :
    F (U.mul lt a b) = Pack.mul ltg (F a) (F b) := by
  have hA := ha.asPack; have hB := hb.asPack
  rw [U.mul, S.ofPack (hA.mul hlt hB), interp_mul hlt S.strict F (fun y hy => S.valid (hA.good y hy))
    (fun y hy => S.valid (hB.good y hy)), S.asPack, S.asPack]

/-- `DimT<UnitPowerT<A, N, D>>` is `DimPowerT<DimT<A>, N, D>`, and likewise for `MagT`. -/
theorem pow {a : U} (ha : HGood lt a) (q : Rat) : F (a.pow q) = (F a).pow q := by
  have hA := ha.asPack
  rw [U.pow, S.ofPack (hA.pow q), interp_pow S.strict F q (fun y hy => S.valid (hA.good y hy)), S.asPack]

end PackSem

theorem U.qEquiv_iff (env : Env) {a b : U} :
    U.qEquiv env a b = true ↔ a.dimOf env = b.dimOf env ∧ a.magOf env = b.magOf env := by
  simp only [U.qEquiv, Bool.and_eq_true, decide_eq_true_eq]
end
end Au
