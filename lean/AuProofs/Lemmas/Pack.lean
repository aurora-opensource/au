import AuModel.Pack
/-! Order and validity of packs; `mul`, `pow`, `div` through the exponent function `den` (`mul_den`, `pow_den`,
`div_den`), their results valid (`mul_valid`, `pow_valid`, `div_valid`); a valid pack is determined by its
exponents (`canonical`, `eq_nil_iff`), hence `mul_comm` and `mul_assoc` as equalities of packs; `wsum`, the
linear functionals through which `mul_den` and the `interp` homomorphism are proved. -/
namespace Au
namespace StrictTotal
variable {β : Type} {lt : β → β → Bool}

theorem ne_of_lt (h : StrictTotal lt) {a b : β} (hab : lt a b = true) : a ≠ b := by
  intro e; subst e; rw [h.irrefl] at hab; cases hab

/-- The two `false` branches of the three-way comparison in `mul`, `common2`, `packLt`. -/
theorem eq_of_not_lt (h : StrictTotal lt) {a b : β} (h1 : ¬lt a b = true) (h2 : ¬lt b a = true) : a = b :=
  h.total a b (by simpa using h1) (by simpa using h2)
end StrictTotal

namespace Pack

section
variable {β : Type} {lt : β → β → Bool}
/-! Nothing in this section looks an exponent up, so no `DecidableEq β`. -/

theorem valid_nil : Valid lt ([] : Pack β) := ⟨List.Pairwise.nil, fun _ h => nomatch h⟩

theorem valid_cons {c : β} {e : Rat} {t : Pack β} (hc : ∀ y ∈ t, lt c y.1 = true) (he : e ≠ 0)
    (ht : Valid lt t) : Valid lt ((c, e) :: t) :=
  ⟨List.pairwise_cons.2 ⟨hc, ht.1⟩, List.forall_mem_cons.2 ⟨he, ht.2⟩⟩

theorem sorted_tail {a : β × Rat} {t : Pack β} (hs : Sorted lt (a :: t)) : Sorted lt t :=
  (List.pairwise_cons.1 hs).2

theorem sorted_head {a : β × Rat} {t : Pack β} (hs : Sorted lt (a :: t)) :
    ∀ y ∈ t, lt a.1 y.1 = true := (List.pairwise_cons.1 hs).1

theorem lt_all_of_lt_head (h : StrictTotal lt) {a : β × Rat} {t : Pack β} {x : β}
    (hs : Sorted lt (a :: t)) (hx : lt x a.1 = true) : ∀ y ∈ a :: t, lt x y.1 = true :=
  List.forall_mem_cons.2 ⟨hx, fun y hy => h.trans _ _ _ hx (sorted_head hs y hy)⟩

theorem eq_of_sorted_of_mem_iff {α : Type} (h : StrictTotal lt) (key : α → β) {a b : List α}
    (ha : a.Pairwise (fun x y => lt (key x) (key y) = true))
    (hb : b.Pairwise (fun x y => lt (key x) (key y) = true)) (hm : ∀ y, y ∈ a ↔ y ∈ b) : a = b := by
  have nodup : ∀ {l : List α}, l.Pairwise (fun x y => lt (key x) (key y) = true) → l.Nodup :=
    List.Pairwise.imp fun hxy e => h.ne_of_lt hxy (congrArg key e)
  refine List.Perm.eq_of_pairwise (fun x y _ _ hxy hyx => ?_) ha hb
    ((List.perm_ext_iff_of_nodup (nodup ha) (nodup hb)).2 hm)
  exact absurd rfl (h.ne_of_lt (h.trans _ _ _ hxy hyx))

theorem mul_nil_right (a : Pack β) : mul lt a [] = a := by
  cases a <;> simp [mul]

/-- Every entry of a product is an entry of a factor or the non-zero sum of two entries of one base. -/
theorem forall_mem_mul (h : StrictTotal lt) {P : β × Rat → Prop}
    (hadd : ∀ c e1 e2, P (c, e1) → P (c, e2) → e1 + e2 ≠ 0 → P (c, e1 + e2))
    {a b : Pack β} (ha : ∀ y ∈ a, P y) (hb : ∀ y ∈ b, P y) : ∀ y ∈ mul lt a b, P y := by
  fun_induction mul lt a b with
  | case1 b => exact hb
  | case2 a _ => exact ha
  | case3 b1 e1 t1 b2 e2 t2 _ ih =>
    rw [List.forall_mem_cons] at ha ⊢
    exact ⟨ha.1, ih ha.2 hb⟩
  | case4 b1 e1 t1 b2 e2 t2 _ _ ih =>
    rw [List.forall_mem_cons] at hb ⊢
    exact ⟨hb.1, ih hb.2 ha⟩
  | case5 b1 e1 t1 b2 e2 t2 _ _ _ ih =>
    exact ih (List.forall_mem_cons.1 ha).2 (List.forall_mem_cons.1 hb).2
  | case6 b1 e1 t1 b2 e2 t2 h1 h2 h3 ih =>
    obtain rfl := h.eq_of_not_lt h1 h2
    rw [List.forall_mem_cons] at ha hb ⊢
    exact ⟨hadd _ _ _ ha.1 hb.1 h3, ih hb.2 ha.2⟩

/-- `Q` is explicit: unification cannot read it off a goal `∀ y ∈ _, … y.1 …`. -/
theorem forall_base_mul (h : StrictTotal lt) (Q : β → Prop) {a b : Pack β}
    (ha : ∀ y ∈ a, Q y.1) (hb : ∀ y ∈ b, Q y.1) : ∀ y ∈ mul lt a b, Q y.1 :=
  forall_mem_mul h (P := fun y => Q y.1) (fun _ _ _ hc _ _ => hc) ha hb

theorem mul_sorted (h : StrictTotal lt) (a b : Pack β) (ha : Sorted lt a) (hb : Sorted lt b) :
    Sorted lt (mul lt a b) := by
  fun_induction mul lt a b with
  | case1 b => exact hb
  | case2 a _ => exact ha
  | case3 b1 e1 t1 b2 e2 t2 h1 ih =>
    exact List.pairwise_cons.2
      ⟨forall_base_mul h (lt b1 · = true) (sorted_head ha) (lt_all_of_lt_head h hb h1), ih (sorted_tail ha) hb⟩
  | case4 b1 e1 t1 b2 e2 t2 _ h2 ih =>
    exact List.pairwise_cons.2
      ⟨forall_base_mul h (lt b2 · = true) (sorted_head hb) (lt_all_of_lt_head h ha h2), ih (sorted_tail hb) ha⟩
  | case5 b1 e1 t1 b2 e2 t2 _ _ _ ih => exact ih (sorted_tail ha) (sorted_tail hb)
  | case6 b1 e1 t1 b2 e2 t2 h1 h2 _ ih =>
    obtain rfl := h.eq_of_not_lt h1 h2
    exact List.pairwise_cons.2
      ⟨forall_base_mul h (lt b1 · = true) (sorted_head hb) (sorted_head ha), ih (sorted_tail hb) (sorted_tail ha)⟩

theorem mem_pow {p : Pack β} {q : Rat} {y : β × Rat} (hy : y ∈ pow p q) :
    q ≠ 0 ∧ ∃ z ∈ p, y = (z.1, z.2 * q) := by
  unfold pow at hy
  split at hy
  · cases hy
  · obtain ⟨z, hz, rfl⟩ := List.mem_map.1 hy
    exact ⟨‹_›, z, hz, rfl⟩

theorem forall_base_pow (Q : β → Prop) {p : Pack β} (hp : ∀ y ∈ p, Q y.1) (q : Rat) :
    ∀ y ∈ pow p q, Q y.1 := by
  intro y hy
  obtain ⟨_, z, hz, rfl⟩ := mem_pow hy
  exact hp z hz

theorem pow_exp_one (p : Pack β) : p.pow 1 = p := by
  unfold pow
  rw [if_neg (by decide)]
  induction p with
  | nil => rfl
  | cons a t ih => rw [List.map_cons, ih, Rat.mul_one]

/-! `wsum w p = Σ w b · e` over the entries `(b, e)` of `p`: a pack as a formal linear combination
of its bases.  `mul` adds and `pow` scales every such sum, whatever the lists; the exponent
`den p x` of a sorted pack and the exponents of an interpretation `interp f p` are sums of this
kind, so they inherit both laws. -/

def wsum (w : β → Rat) : Pack β → Rat
  | [] => 0
  | (b, e) :: t => w b * e + wsum w t

theorem wsum_cons (w : β → Rat) (b : β) (e : Rat) (t : Pack β) :
    wsum w ((b, e) :: t) = w b * e + wsum w t := rfl

theorem wsum_mul (h : StrictTotal lt) (w : β → Rat) (a b : Pack β) :
    wsum w (mul lt a b) = wsum w a + wsum w b := by
  fun_induction mul lt a b with
  | case1 b => exact (Rat.zero_add _).symm
  | case2 a _ => exact (Rat.add_zero _).symm
  | case3 b1 e1 t1 b2 e2 t2 _ ih => rw [wsum_cons, ih, wsum_cons w b1, Rat.add_assoc]
  | case4 b1 e1 t1 b2 e2 t2 _ _ ih => rw [wsum_cons, ih, wsum_cons w b2, ← Rat.add_assoc, Rat.add_comm]
  | case5 b1 e1 t1 b2 e2 t2 h1 h2 h3 ih =>
    obtain rfl := h.eq_of_not_lt h1 h2
    have : w b1 * e1 + w b1 * e2 = 0 := by rw [← Rat.mul_add, h3, Rat.mul_zero]
    simp only [wsum_cons, ih]; grind
  | case6 b1 e1 t1 b2 e2 t2 h1 h2 _ ih =>
    obtain rfl := h.eq_of_not_lt h1 h2
    simp only [wsum_cons, ih, Rat.mul_add]; grind

theorem wsum_pow (w : β → Rat) (p : Pack β) (q : Rat) : wsum w (pow p q) = wsum w p * q := by
  unfold pow
  split
  · subst q; exact (Rat.mul_zero _).symm
  · induction p with
    | nil => exact (Rat.zero_mul _).symm
    | cons a t ih => rw [List.map_cons, wsum_cons, ih, wsum_cons, Rat.add_mul, Rat.mul_assoc]
end

section
variable {β : Type} [DecidableEq β] {lt : β → β → Bool}

theorem den_nil (x : β) : den ([] : Pack β) x = 0 := rfl

theorem den_cons (c : β) (e : Rat) (t : Pack β) (x : β) :
    den ((c, e) :: t) x = if c = x then e else den t x := rfl

theorem den_head (c : β) (e : Rat) (t : Pack β) : den ((c, e) :: t) c = e := by
  rw [den_cons, if_pos rfl]

theorem den_eq_zero_of_lt_all (h : StrictTotal lt) (p : Pack β) (x : β)
    (hall : ∀ y ∈ p, lt x y.1 = true) : den p x = 0 := by
  induction p with
  | nil => rfl
  | cons a t ih =>
    rw [List.forall_mem_cons] at hall
    rw [den_cons, if_neg (fun hcx => h.ne_of_lt hall.1 hcx.symm)]
    exact ih hall.2

theorem den_of_mem (h : StrictTotal lt) :
    ∀ (p : Pack β), Sorted lt p → ∀ a ∈ p, den p a.1 = a.2
  | (c, e) :: t, hs, a, ha => by
    rcases List.mem_cons.1 ha with rfl | hat
    · exact den_head ..
    · rw [den_cons, if_neg (h.ne_of_lt (sorted_head hs a hat))]
      exact den_of_mem h t (sorted_tail hs) a hat

theorem mem_of_den_ne_zero (p : Pack β) (x : β) (hx : den p x ≠ 0) : (x, den p x) ∈ p := by
  induction p with
  | nil => exact absurd rfl hx
  | cons a t ih =>
    obtain ⟨c, e⟩ := a
    rw [den_cons] at hx ⊢
    split
    next hc => subst hc; exact List.mem_cons_self ..
    next hc => rw [if_neg hc] at hx; exact List.mem_cons_of_mem _ (ih hx)

theorem mem_iff_den (h : StrictTotal lt) {p : Pack β} (hv : Valid lt p) (y : β × Rat) :
    y ∈ p ↔ den p y.1 = y.2 ∧ y.2 ≠ 0 :=
  ⟨fun hy => ⟨den_of_mem h p hv.1 y hy, hv.2 y hy⟩,
   fun ⟨hd, hy⟩ => by have := mem_of_den_ne_zero p y.1 (hd ▸ hy); rwa [hd] at this⟩

/-- A valid pack is determined by its exponent function: equal exponents ⇒ identical type. -/
theorem canonical (h : StrictTotal lt) (a b : Pack β) (ha : Valid lt a) (hb : Valid lt b)
    (hd : ∀ x, den a x = den b x) : a = b :=
  eq_of_sorted_of_mem_iff h Prod.fst ha.1 hb.1 fun y => by rw [mem_iff_den h ha, mem_iff_den h hb, hd]

theorem eq_nil_iff (p : Pack β) (hv : Valid lt p) : p = [] ↔ ∀ x, den p x = 0 := by
  refine ⟨fun hp _ => hp ▸ rfl, fun hz => ?_⟩
  cases p with
  | nil => rfl
  | cons a t => exact absurd ((den_head a.1 a.2 t).symm.trans (hz a.1)) (hv.2 a (List.mem_cons_self ..))

theorem den_filter (h : StrictTotal lt) (p : Rat → Bool) (m : Pack β) (hs : Sorted lt m) (x : β) :
    den (m.filter (fun a => p a.2)) x = if p (den m x) = true then den m x else 0 := by
  induction m with
  | nil => exact (ite_self _).symm
  | cons a t ih =>
    obtain ⟨c, e⟩ := a
    have iht := ih (sorted_tail hs)
    by_cases hx : c = x
    · subst hx
      rw [den_eq_zero_of_lt_all h t c (sorted_head hs)] at iht
      rw [List.filter_cons, den_head]
      split
      · rw [den_head]
      · simpa using iht
    · rw [List.filter_cons, den_cons, if_neg hx]
      split
      · rw [den_cons, if_neg hx, iht]
      · exact iht

theorem den_eq_wsum (h : StrictTotal lt) (p : Pack β) (hs : Sorted lt p) (x : β) :
    den p x = wsum (fun b => if b = x then 1 else 0) p := by
  induction p with
  | nil => rfl
  | cons a t ih =>
    obtain ⟨c, e⟩ := a
    rw [den_cons, wsum_cons, ← ih (sorted_tail hs)]
    split
    · subst x; rw [den_eq_zero_of_lt_all h t c (sorted_head hs), Rat.one_mul, Rat.add_zero]
    · rw [Rat.zero_mul, Rat.zero_add]

-- These three do not use `[DecidableEq β]`; their statements carry it, hence the linter option.
set_option linter.unusedSectionVars false in
theorem mul_nil_left (b : Pack β) : mul lt [] b = b := by
  simp [mul]

set_option linter.unusedSectionVars false in
theorem mul_valid (h : StrictTotal lt) (a b : Pack β) (ha : Valid lt a) (hb : Valid lt b) :
    Valid lt (mul lt a b) :=
  ⟨mul_sorted h a b ha.1 hb.1, forall_mem_mul h (P := fun y => y.2 ≠ 0) (fun _ _ _ _ _ h3 => h3) ha.2 hb.2⟩

set_option linter.unusedSectionVars false in
theorem pow_valid (p : Pack β) (q : Rat) (hp : Valid lt p) : Valid lt (pow p q) := by
  refine ⟨?_, fun y hy => ?_⟩
  · unfold pow
    split
    · exact List.Pairwise.nil
    · exact List.pairwise_map.2 hp.1
  · obtain ⟨hq, z, hz, rfl⟩ := mem_pow hy
    exact fun h0 => (Rat.mul_eq_zero.1 h0).elim (hp.2 z hz) hq

theorem mul_den (h : StrictTotal lt) (a b : Pack β) (ha : Sorted lt a) (hb : Sorted lt b) (x : β) :
    den (mul lt a b) x = den a x + den b x := by
  rw [den_eq_wsum h _ (mul_sorted h a b ha hb), wsum_mul h, ← den_eq_wsum h a ha, ← den_eq_wsum h b hb]

theorem mul_comm (h : StrictTotal lt) (a b : Pack β) (ha : Valid lt a) (hb : Valid lt b) :
    mul lt a b = mul lt b a := by
  apply canonical h _ _ (mul_valid h a b ha hb) (mul_valid h b a hb ha)
  intro x
  rw [mul_den h a b ha.1 hb.1, mul_den h b a hb.1 ha.1, Rat.add_comm]

theorem mul_assoc (h : StrictTotal lt) (a b c : Pack β) (ha : Valid lt a) (hb : Valid lt b)
    (hc : Valid lt c) : mul lt (mul lt a b) c = mul lt a (mul lt b c) := by
  have hab := mul_valid h a b ha hb
  have hbc := mul_valid h b c hb hc
  apply canonical h _ _ (mul_valid h _ c hab hc) (mul_valid h a _ ha hbc)
  intro x
  rw [mul_den h _ c hab.1 hc.1, mul_den h a b ha.1 hb.1, mul_den h a _ ha.1 hbc.1,
    mul_den h b c hb.1 hc.1, Rat.add_assoc]

theorem pow_den (p : Pack β) (q : Rat) (x : β) : den (pow p q) x = den p x * q := by
  unfold pow
  split
  next hq => subst hq; simp [den_nil, Rat.mul_zero]
  · induction p with
    | nil => simp [den_nil, Rat.zero_mul]
    | cons a t ih =>
      obtain ⟨c, e⟩ := a
      simp only [List.map_cons, den_cons]
      split
      · rfl
      · exact ih

theorem inv_valid {p : Pack β} (hv : Valid lt p) : Valid lt (inv p) := pow_valid p (-1) hv

theorem inv_den (p : Pack β) (x : β) : den (inv p) x = -(den p x) := by
  rw [inv, pow_den, Rat.mul_neg, Rat.mul_one]

theorem div_valid (h : StrictTotal lt) (a b : Pack β) (ha : Valid lt a) (hb : Valid lt b) :
    Valid lt (div lt a b) := mul_valid h a _ ha (inv_valid hb)

theorem div_den (h : StrictTotal lt) (a b : Pack β) (ha : Sorted lt a) (hb : Valid lt b) (x : β) :
    den (div lt a b) x = den a x - den b x := by
  rw [div, mul_den h a _ ha (inv_valid hb).1, inv_den, Rat.sub_eq_add_neg]

theorem div_exps_pos (h : StrictTotal lt) (a b : Pack β) (ha : Valid lt a) (hb : Valid lt b)
    (hle : ∀ x, 0 ≤ den a x - den b x) : ∀ y ∈ div lt a b, 0 < y.2 := by
  intro y hy
  have hv := div_valid h a b ha hb
  have := hle y.1
  rw [← div_den h a b ha.1 hb, den_of_mem h _ hv.1 y hy] at this
  exact Rat.lt_of_le_of_ne this (hv.2 y hy).symm
end

section Interp
variable {β : Type} {lt : β → β → Bool} {γ : Type} [DecidableEq γ] {ltg : γ → γ → Bool}

theorem interp_valid (hg : StrictTotal ltg) (f : β → Pack γ) (p : Pack β)
    (hf : ∀ y ∈ p, Valid ltg (f y.1)) : Valid ltg (interp ltg f p) := by
  induction p with
  | nil => exact valid_nil
  | cons a t ih =>
    rw [List.forall_mem_cons] at hf
    exact mul_valid hg _ _ (pow_valid _ _ hf.1) (ih hf.2)

theorem interp_den (hg : StrictTotal ltg) (f : β → Pack γ) (p : Pack β)
    (hf : ∀ y ∈ p, Valid ltg (f y.1)) (x : γ) :
    den (interp ltg f p) x = wsum (fun b => den (f b) x) p := by
  induction p with
  | nil => rfl
  | cons a t ih =>
    rw [List.forall_mem_cons] at hf
    rw [interp, mul_den hg _ _ (pow_valid _ _ hf.1).1 (interp_valid hg f t hf.2).1, pow_den, ih hf.2, wsum_cons]

theorem interp_mul (h : StrictTotal lt) (hg : StrictTotal ltg) (f : β → Pack γ) {a b : Pack β}
    (hfa : ∀ y ∈ a, Valid ltg (f y.1)) (hfb : ∀ y ∈ b, Valid ltg (f y.1)) :
    interp ltg f (mul lt a b) = mul ltg (interp ltg f a) (interp ltg f b) := by
  have hfm := forall_base_mul h (fun c => Valid ltg (f c)) hfa hfb
  have va := interp_valid hg f a hfa
  have vb := interp_valid hg f b hfb
  apply canonical hg _ _ (interp_valid hg f _ hfm) (mul_valid hg _ _ va vb)
  intro x
  rw [interp_den hg f _ hfm, wsum_mul h, mul_den hg _ _ va.1 vb.1, interp_den hg f a hfa, interp_den hg f b hfb]

theorem interp_pow (hg : StrictTotal ltg) (f : β → Pack γ) {p : Pack β} (q : Rat)
    (hf : ∀ y ∈ p, Valid ltg (f y.1)) :
    interp ltg f (p.pow q) = (interp ltg f p).pow q := by
  have hfp := forall_base_pow (fun c => Valid ltg (f c)) hf q
  apply canonical hg _ _ (interp_valid hg f _ hfp) (pow_valid _ q (interp_valid hg f p hf))
  intro x
  rw [interp_den hg f _ hfp, wsum_pow, pow_den, interp_den hg f p hf]
end Interp

end Pack
end Au
