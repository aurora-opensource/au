/-
  One rounding step of the shared float model in rational terms: the rounded magnitude `m·2^k` is within half a quantum
  of `n/d` (`rneAbs_err`), so a finite rounding of `q` is within `|q|·2^-prec` of `q` in the normal range (`rne_rel_err`, the
  textbook unit roundoff); and rounding crosses no power of two (`rne_atLeast_pow2`, `rne_atMost_pow2`).
-/
import AuProofs.Lemmas.Flt
import AuProofs.Lemmas.Ilog2
import Mathlib.Tactic.FieldSimp

namespace Au

theorem pow2_zpow (k : Int) : pow2 k = (2 : ℚ) ^ k := by
  unfold pow2
  split
  · rename_i h
    lift k to ℕ using h
    simp
  · obtain ⟨t, rfl⟩ : ∃ t : ℕ, k = -t := ⟨(-k).toNat, by omega⟩
    simp [Rat.mkRat_eq_div, zpow_neg]

theorem roundEvenDiv_err (n d : Nat) (hd : 0 < d) :
    |((roundEvenDiv n d : Nat) : ℚ) - (n : ℚ) / d| ≤ 1 / 2 := by
  have hdq : (0 : ℚ) < d := by exact_mod_cast hd
  obtain ⟨k1, k2⟩ := roundEvenDiv_near n d hd
  have hx : (n : ℚ) = (n : ℚ) / d * d := (div_mul_cancel₀ _ hdq.ne').symm
  have e1 : (2 : ℚ) * (roundEvenDiv n d * d) ≤ 2 * n + d := by exact_mod_cast k1
  have e2 : (2 : ℚ) * n ≤ 2 * (roundEvenDiv n d * d) + d := by exact_mod_cast k2
  generalize (n : ℚ) / d = x at hx ⊢
  rw [hx] at e1 e2
  rw [abs_le]
  constructor <;> nlinarith

theorem rneAbs_err (F : FltTy) (n d : Nat) (hd : 0 < d) :
    |((rneAbs F n d).1 : ℚ) * (2 : ℚ) ^ (rneAbs F n d).2 - (n : ℚ) / d| ≤ (2 : ℚ) ^ (rneAbs F n d).2 / 2 := by
  rw [rneAbs_fst]
  generalize (rneAbs F n d).2 = k
  have hk := two_zpow_pos k
  have h := roundEvenDiv_err (n * 2 ^ (-k).toNat) (d * 2 ^ k.toNat) (Nat.mul_pos hd (Nat.pow_pos (by norm_num)))
  have hdq : (0 : ℚ) < d := by exact_mod_cast hd
  have e2 : ((n * 2 ^ (-k).toNat : Nat) : ℚ) / ((d * 2 ^ k.toNat : Nat) : ℚ) = (n : ℚ) / d / (2 : ℚ) ^ k := by
    rw [two_zpow_eq_div k]; push_cast; field_simp
  rw [e2] at h
  calc _ = |((roundEvenDiv (n * 2 ^ (-k).toNat) (d * 2 ^ k.toNat) : Nat) : ℚ) - (n : ℚ) / d / (2 : ℚ) ^ k| * (2 : ℚ) ^ k := by
        rw [← abs_of_pos hk, ← abs_mul, abs_of_pos hk]; congr 1; field_simp
    _ ≤ 1 / 2 * (2 : ℚ) ^ k := mul_le_mul_of_nonneg_right h hk.le
    _ = _ := by ring

/-- The magnitude `rne` gives a non-zero `q` before the overflow test. -/
def rmag (F : FltTy) (q : ℚ) : ℚ :=
  ((rneAbs F q.num.natAbs q.den).1 : ℚ) * 2 ^ (rneAbs F q.num.natAbs q.den).2

theorem rne_of_ne_zero (F : FltTy) {q : ℚ} (hq : q ≠ 0) :
    rne F q = if F.maxFinite < rmag F q then .inf (decide (q < 0)) else .fin (if q < 0 then -rmag F q else rmag F q) := by
  unfold rne rmag
  simp only [hq, if_false, pow2_zpow]

theorem natAbs_num_div_den (q : ℚ) : ((q.num.natAbs : Nat) : ℚ) / (q.den : ℚ) = |q| := by
  have hd : (0 : ℚ) < (q.den : ℚ) := by exact_mod_cast q.den_pos
  conv_rhs => rw [← Rat.num_div_den q]
  rw [abs_div, abs_of_pos hd, Nat.cast_natAbs, Int.cast_abs]

theorem ilog2_bracket {q : ℚ} (hq : q ≠ 0) :
    (2 : ℚ) ^ ilog2 q.num.natAbs q.den ≤ |q| ∧ |q| < (2 : ℚ) ^ (ilog2 q.num.natAbs q.den + 1) := by
  have := ilog2_spec q.num.natAbs q.den (Int.natAbs_pos.2 (Rat.num_ne_zero.2 hq)) q.den_pos
  rwa [natAbs_num_div_den] at this

/-- The invariant of the long-double pipeline on integer magnitudes: the value never drops below `c` (a power of two in all
uses), `+inf` included. -/
def Flt.AtLeast (c : Rat) : Flt → Prop
  | .inf false => True
  | .fin v => c ≤ v
  | _ => False

theorem Flt.AtLeast.mono {a b : Rat} (hab : a ≤ b) : ∀ {x : Flt}, Flt.AtLeast b x → Flt.AtLeast a x
  | .inf false, _ => trivial
  | .fin _, h => le_trans hab h
  | .inf true, h => h.elim
  | .nan, h => h.elim

theorem Flt.AtLeast.pow2_mono {i j : Nat} (h : i ≤ j) {x : Flt} (hx : Flt.AtLeast ((2 ^ j : Nat) : Rat) x) :
    Flt.AtLeast ((2 ^ i : Nat) : Rat) x :=
  hx.mono (by exact_mod_cast Nat.pow_le_pow_right (by norm_num) h)

theorem Flt.AtLeast.cases {c : Rat} : ∀ {x : Flt}, Flt.AtLeast c x → x = .inf false ∨ ∃ w, x = .fin w ∧ c ≤ w
  | .inf false, _ => .inl rfl
  | .fin w, h => .inr ⟨w, rfl, h⟩
  | .inf true, h => h.elim
  | .nan, h => h.elim

theorem Flt.AtLeast.mul_cases (F : FltTy) {c c' : Rat} (hc : 0 < c) (hc' : 0 < c') {a b : Flt}
    (ha : Flt.AtLeast c a) (hb : Flt.AtLeast c' b) :
    Flt.mul F a b = .inf false ∨ ∃ p q, a = .fin p ∧ b = .fin q ∧ c ≤ p ∧ c' ≤ q := by
  rcases ha.cases with rfl | ⟨p, rfl, hp⟩ <;> rcases hb.cases with rfl | ⟨q, rfl, hq⟩
  · exact .inl rfl
  · have := hc'.trans_le hq
    exact .inl (by simp [Flt.mul, this.ne', not_lt.2 this.le])
  · have := hc.trans_le hp
    exact .inl (by simp [Flt.mul, this.ne', not_lt.2 this.le])
  · exact .inr ⟨p, q, rfl, rfl, hp, hq⟩

/-- Rounding to nearest never drops below a power of two the exact value is above: the bottom `2^e` of the binade of `q` lies
between them, and is on the grid of the quantum `2^(e−prec+1)` that `q` is rounded with. -/
theorem rne_atLeast_pow2 (F : FltTy) (hp : 1 ≤ F.prec) (hemin : F.emin ≤ 0) (q : Rat) (j : Nat)
    (h : ((2 ^ j : Nat) : Rat) ≤ q) : Flt.AtLeast ((2 ^ j : Nat) : Rat) (rne F q) := by
  have hqpos : (0 : ℚ) < q := lt_of_lt_of_le (by positivity) h
  obtain ⟨hlo, hhi⟩ := ilog2_bracket hqpos.ne'
  rw [abs_of_pos hqpos] at hhi
  have hje : (j : Int) < ilog2 q.num.natAbs q.den + 1 :=
    lt_of_two_zpow_lt (lt_of_le_of_lt (by rw [zpow_natCast]; exact_mod_cast h) hhi)
  obtain ⟨e, he⟩ : ∃ e : ℕ, ilog2 q.num.natAbs q.den = e := ⟨_, (Int.toNat_of_nonneg (by omega)).symm⟩
  have hk := rneAbs_snd F q.num.natAbs q.den
  rw [he] at hk hlo hje
  have hb : (rneAbs F q.num.natAbs q.den).2.toNat ≤ e := by omega
  have hle : 2 ^ e * q.den ≤ q.num.natAbs := by
    rw [zpow_natCast, ← natAbs_num_div_den, le_div_iff₀ (by exact_mod_cast q.den_pos)] at hlo
    exact_mod_cast hlo
  have hv := rneAbs_ge_of_ge F _ _ q.den_pos (2 ^ (e - (rneAbs F q.num.natAbs q.den).2.toNat))
    (by rwa [← Nat.pow_add, Nat.sub_add_cancel hb])
  rw [← Nat.pow_add, Nat.sub_add_cancel hb, pow2_zpow] at hv
  have hjv : ((2 ^ j : Nat) : ℚ) ≤ rmag F q :=
    le_trans (by exact_mod_cast Nat.pow_le_pow_right (by norm_num) (by omega : j ≤ e)) hv
  rw [rne_of_ne_zero F hqpos.ne']
  split
  · simp [Flt.AtLeast, not_lt.2 hqpos.le]
  · simpa [Flt.AtLeast, not_lt.2 hqpos.le] using hjv

theorem cast_atLeast_pow2 (F : FltTy) (hp : 1 ≤ F.prec) (hemin : F.emin ≤ 0) (j : Nat) {v : Flt}
    (h : Flt.AtLeast ((2 ^ j : Nat) : Rat) v) : Flt.AtLeast ((2 ^ j : Nat) : Rat) (Flt.cast F v) := by
  rcases h.cases with rfl | ⟨q, rfl, hq⟩
  · trivial
  · exact rne_atLeast_pow2 F hp hemin q j hq

theorem Flt.AtLeast.not_le {c c' : Rat} (hc : c' < c) {v : Flt} (h : Flt.AtLeast c v) : Flt.le v (.fin c') = false := by
  rcases h.cases with rfl | ⟨q, rfl, hq⟩
  · rfl
  · simp [Flt.le, Flt.lt, lt_of_lt_of_le hc hq]

/-- Rounding to nearest never rises above a power of two the exact value is below, nor overflows if the format has that power:
`2^k` is on the grid of the quantum that `q ≤ 2^k` is rounded with. -/
theorem rne_atMost_pow2 (F : FltTy) (hp : 1 ≤ F.prec) (hemin : F.emin ≤ 0) (q : Rat) (k : Nat) (hq : 0 < q)
    (h : q ≤ ((2 ^ k : Nat) : Rat)) (hk : 2 ^ k ≤ F.maxNat) : ∃ w, rne F q = .fin w ∧ w ≤ ((2 ^ k : Nat) : Rat) := by
  obtain ⟨hlo, -⟩ := ilog2_bracket hq.ne'
  rw [abs_of_pos hq] at hlo
  have hek : ilog2 q.num.natAbs q.den < (k : Int) + 1 :=
    lt_of_two_zpow_lt (lt_of_le_of_lt (hlo.trans h) (by
      rw [show (k : Int) + 1 = ((k + 1 : Nat) : Int) by push_cast; ring, zpow_natCast]
      exact_mod_cast Nat.pow_lt_pow_right (by norm_num) (Nat.lt_succ_self k)))
  have hb : (rneAbs F q.num.natAbs q.den).2.toNat ≤ k := by have := rneAbs_snd F q.num.natAbs q.den; omega
  have hle : q.num.natAbs ≤ 2 ^ k * q.den := by
    rw [← abs_of_pos hq, ← natAbs_num_div_den, div_le_iff₀ (by exact_mod_cast q.den_pos)] at h
    exact_mod_cast h
  have hv := rneAbs_le_of_le F _ _ q.den_pos (2 ^ (k - (rneAbs F q.num.natAbs q.den).2.toNat))
    (by rwa [← Nat.pow_add, Nat.sub_add_cancel hb])
  rw [← Nat.pow_add, Nat.sub_add_cancel hb, pow2_zpow] at hv
  have hfin : ¬ F.maxFinite < rmag F q := not_lt.2 (hv.trans (by unfold FltTy.maxFinite; exact_mod_cast hk))
  exact ⟨rmag F q, by rw [rne_of_ne_zero F hq.ne', if_neg hfin, if_neg (not_lt.2 hq.le)], hv⟩

/-- **Absolute error of one rounding step**: whenever the rounding of a non-zero `q` is finite, it is within half
a quantum of `q` (the quantum `2^k` being the one the model used for `q`). -/
theorem rne_abs_err (F : FltTy) (q : ℚ) (hq : q ≠ 0) (w : ℚ) (h : rne F q = .fin w) :
    |w - q| ≤ (2 : ℚ) ^ (rneAbs F q.num.natAbs q.den).2 / 2 := by
  rw [rne_of_ne_zero F hq] at h
  split at h
  · cases h
  · have herr : |rmag F q - abs q| ≤ _ := natAbs_num_div_den q ▸ rneAbs_err F _ _ q.den_pos
    rw [← Flt.fin.inj h]
    split
    · rename_i hneg
      rwa [abs_of_neg hneg, ← abs_neg, neg_sub', neg_neg] at herr
    · rename_i hpos
      rwa [abs_of_nonneg (not_lt.1 hpos)] at herr

/-- **Relative error of one rounding step (unit roundoff)**: in the normal range of the format, a finite rounding of
`q` differs from `q` by at most `|q|·2^-prec`. -/
theorem rne_rel_err (F : FltTy) (q : ℚ) (hq : q ≠ 0) (hnormal : (2 : ℚ) ^ F.emin ≤ |q|) (w : ℚ) (h : rne F q = .fin w) :
    |w - q| ≤ |q| * (2 : ℚ) ^ (-(F.prec : Int)) := by
  obtain ⟨hlo, hhi⟩ := ilog2_bracket hq
  -- the exponent is not clamped
  have he : F.emin ≤ ilog2 q.num.natAbs q.den := by
    have := lt_of_two_zpow_lt (lt_of_le_of_lt hnormal hhi)
    omega
  calc |w - q| ≤ (2 : ℚ) ^ (ilog2 q.num.natAbs q.den - ((F.prec : Int) - 1)) / 2 := by
        rw [← max_eq_left he, ← rneAbs_snd]; exact rne_abs_err F q hq w h
    _ = (2 : ℚ) ^ ilog2 q.num.natAbs q.den * (2 : ℚ) ^ (-(F.prec : Int)) := by
        rw [show ilog2 q.num.natAbs q.den - ((F.prec : Int) - 1) = ilog2 q.num.natAbs q.den + -(F.prec : Int) + 1 by ring,
          zpow_add₀ (by norm_num), zpow_add₀ (by norm_num)]
        simp
    _ ≤ _ := mul_le_mul_of_nonneg_right hlo (two_zpow_pos _).le

end Au
