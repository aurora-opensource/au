/-
  A relation given as a table of bitmask rows that is *induced by an injective rank* is a strict
  total order on the indices.  Used on the regenerated `InOrderFor<UnitProduct,·,·>` table.
-/
namespace Au

def tableLt (rows : List Nat) (i j : Nat) : Bool := (rows.getD i 0).testBit j

def tableInducedBy (n : Nat) (ranks rows : List Nat) : Bool :=
  (List.range n).all fun i => (List.range n).all fun j =>
    tableLt rows i j == decide (ranks.getD i 0 < ranks.getD j 0)

def ranksDistinct (n : Nat) (ranks : List Nat) : Bool :=
  (List.range n).all fun i => (List.range n).all fun j =>
    i == j || ranks.getD i 0 != ranks.getD j 0

theorem table_strictTotal (n : Nat) (ranks rows : List Nat)
    (h1 : tableInducedBy n ranks rows = true) (h2 : ranksDistinct n ranks = true) :
    (∀ i, i < n → tableLt rows i i = false) ∧
    (∀ i j k, i < n → j < n → k < n → tableLt rows i j = true → tableLt rows j k = true → tableLt rows i k = true) ∧
    (∀ i j, i < n → j < n → tableLt rows i j = false → tableLt rows j i = false → i = j) := by
  have key : ∀ i, i < n → ∀ j, j < n → tableLt rows i j = decide (ranks.getD i 0 < ranks.getD j 0) := by
    simpa [tableInducedBy] using h1
  have inj : ∀ i, i < n → ∀ j, j < n → i = j ∨ ranks.getD i 0 ≠ ranks.getD j 0 := by
    simpa [ranksDistinct] using h2
  refine ⟨fun i hi => ?_, fun i j k hi hj hk => ?_, fun i j hi hj => ?_⟩
  · simp [key i hi i hi]
  · simp only [key i hi j hj, key j hj k hk, key i hi k hk, decide_eq_true_eq]; exact Nat.lt_trans
  · simp only [key i hi j hj, key j hj i hi, decide_eq_false_iff_not]
    intro a b; exact (inj i hi j hj).resolve_right (by omega)

end Au
