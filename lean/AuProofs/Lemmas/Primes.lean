/-
  Lemmas about AuModel.Primes: `gcd`, `decompose`, `miller_rabin`, `is_perfect_square` each return their
  mathematical value with all flags clear on every 64-bit input their precondition admits, by induction
  along their own loop.
-/
import AuModel.Primes
import AuProofs.Lemmas.Mod
import Mathlib.Data.Nat.Sqrt
import Mathlib.Tactic.Zify
import Mathlib.Tactic.Linarith
namespace Au
namespace U64

theorem gcdLoop_spec (fuel a b : Nat) (hb : b ≤ fuel) : gcdLoop fuel a b = W.ok (Nat.gcd a b) := by
  fun_induction gcdLoop fuel a b with
  | case1 a b h => omega
  | case2 a b h fuel ih =>
    have hb0 : 0 < b := Nat.pos_of_ne_zero h
    have := Nat.mod_lt a hb0
    rw [mod_ok hb0, ok_bind, ih _ (by omega), Nat.gcd_comm a b, Nat.gcd_rec b a, Nat.gcd_comm]
  | case3 fuel a b h => rw [show b = 0 by omega, Nat.gcd_zero_right]; rfl

theorem gcd_spec (a b : Nat) : gcd a b = W.ok (Nat.gcd a b) := gcdLoop_spec b a b (Nat.le_refl b)

theorem decomposeLoop_spec (fuel s d : Nat) (h0 : 0 < d) (h1 : d < 2 ^ fuel) (hs : s + fuel < 2 ^ 64) :
    ∃ s' d', decomposeLoop fuel s d = W.ok ⟨s', d'⟩ ∧ 2 ^ s * d = 2 ^ s' * d' ∧ d' % 2 = 1 := by
  fun_induction decomposeLoop fuel s d with
  | case1 s d h => omega
  | case2 s d h fuel ih =>
    rw [div_ok (by decide), ok_bind, add_ok (by omega), ok_bind]
    rw [Nat.pow_succ] at h1
    obtain ⟨s', d', h3, h4, h5⟩ := ih (d / 2) (s + 1) (by omega) (by omega) (by omega)
    refine ⟨s', d', h3, ?_, h5⟩
    rw [← h4, Nat.pow_succ, Nat.mul_assoc, show 2 * (d / 2) = d by omega]
  | case3 fuel s d h => exact ⟨s, d, rfl, rfl, by omega⟩

theorem decompose_spec {n : Nat} (h0 : 0 < n) (hn : n < 2 ^ 64) :
    ∃ s d, decompose n = W.ok ⟨s, d⟩ ∧ n = 2 ^ s * d ∧ d % 2 = 1 := by
  simpa [decompose] using decomposeLoop_spec 64 0 n h0 hn (by omega)

theorem coprime_two_of_odd {d : Nat} (hd : d % 2 = 1) : Nat.Coprime 2 d := by
  rw [Nat.Coprime, Nat.gcd_rec, hd, Nat.gcd_one_left]

/-- For `0 < n < 2^64` the largest power of two dividing `n` is `gcd n 2^64`.  The kernel evaluates this
in a few steps, the model's loop in hundreds. -/
def decomposeV (n : Nat) : NumberDecomposition := ⟨Nat.log2 (Nat.gcd n (2 ^ 64)), n / Nat.gcd n (2 ^ 64)⟩

theorem decompose_eq {n : Nat} (h0 : 0 < n) (hn : n < 2 ^ 64) :
    decompose n = W.ok (decomposeV n) ∧ n = 2 ^ (decomposeV n).powerOfTwo * (decomposeV n).oddRemainder ∧
      (decomposeV n).oddRemainder % 2 = 1 := by
  obtain ⟨s, d, h, rfl, hd⟩ := decompose_spec h0 hn
  have hs : s < 64 := (Nat.pow_lt_pow_iff_right (by decide)).1
    (Nat.lt_of_le_of_lt (Nat.le_mul_of_pos_right _ (by omega)) hn)
  have hg : Nat.gcd (2 ^ s * d) (2 ^ 64) = 2 ^ s := by
    rw [show 2 ^ 64 = 2 ^ s * 2 ^ (64 - s) by rw [← Nat.pow_add]; congr 1; omega, Nat.gcd_mul_left,
      (coprime_two_of_odd hd).symm.pow_right, Nat.mul_one]
  rw [decomposeV, hg, Nat.log2_two_pow, Nat.mul_div_cancel_left d (Nat.two_pow_pos s)]
  exact ⟨h, rfl, hd⟩

theorem mrLoop_spec (k x n : Nat) (hn : n < 2 ^ 64) (hx : x < n) :
    mrLoop k x n = W.ok (if ∃ r, r < k ∧ x ^ (2 ^ r) % n = n - 1 then .probablyPrime else .composite) := by
  fun_induction mrLoop k x n with
  | case1 x n => simp [pure_eq_ok]
  | case2 k n => rw [if_pos ⟨0, by omega, by simp [Nat.mod_eq_of_lt hx]⟩]; rfl
  | case3 k x n h ih =>
    have key : ∀ r, (x * x % n) ^ (2 ^ r) % n = x ^ (2 ^ (r + 1)) % n := fun r => by
      rw [← Nat.pow_mod, ← Nat.pow_two, ← Nat.pow_mul, Nat.pow_succ, Nat.mul_comm]
    rw [mulMod_spec hx hx hn, ok_bind, ih _ hn (Nat.mod_lt _ (by omega))]
    simp only [Nat.exists_lt_succ_left, key, Nat.pow_zero, Nat.pow_one, Nat.mod_eq_of_lt hx, h, false_or]

/-- `n` is a strong probable prime to base `a` (with `n - 1 = 2^s d`, `d` odd). -/
def StrongProbablePrime (a n : Nat) : Prop :=
  ∃ s d, n - 1 = 2 ^ s * d ∧ d % 2 = 1 ∧ (a ^ d % n = 1 ∨ ∃ r, r < s ∧ a ^ (2 ^ r * d) % n = n - 1)

theorem two_pow_odd_unique {s d s' d' : Nat} (h : 2 ^ s * d = 2 ^ s' * d') (hd : d % 2 = 1) (hd' : d' % 2 = 1) :
    s = s' ∧ d = d' := by
  -- `2^s` divides `2^s' * d'` and is coprime to the odd `d'`
  have le : ∀ {s d s' d' : Nat}, 2 ^ s * d = 2 ^ s' * d' → d' % 2 = 1 → s ≤ s' := fun {s d s' d'} h hd' =>
    (Nat.pow_dvd_pow_iff_le_right (by decide)).1
      (((coprime_two_of_odd hd').pow_left s).dvd_of_dvd_mul_right ⟨d, h.symm⟩)
  obtain rfl : s = s' := Nat.le_antisymm (le h hd') (le h.symm hd)
  exact ⟨rfl, Nat.eq_of_mul_eq_mul_left (Nat.two_pow_pos s) h⟩

theorem strongProbablePrime_iff {a n s d : Nat} (h : n - 1 = 2 ^ s * d) (hd : d % 2 = 1) :
    StrongProbablePrime a n ↔ (a ^ d % n = 1 ∨ ∃ r, r < s ∧ a ^ (2 ^ r * d) % n = n - 1) := by
  refine ⟨?_, fun h' => ⟨s, d, h, hd, h'⟩⟩
  rintro ⟨s', d', e1, e2, e3⟩
  obtain ⟨rfl, rfl⟩ := two_pow_odd_unique (h.symm.trans e1) hd e2
  exact e3

theorem millerRabin_spec {a n : Nat} (ha : 2 ≤ a) (han : a + 2 ≤ n) (hodd : n % 2 = 1) (hn : n < 2 ^ 64)
    [Decidable (StrongProbablePrime a n)] :  -- an argument, so that it is whatever instance the caller's `if` carries
    millerRabin a n = W.ok (if StrongProbablePrime a n then .probablyPrime else .composite) := by
  obtain ⟨s, d, h1, h2, h3⟩ := decompose_spec (n := n - 1) (by omega) (by omega)
  unfold millerRabin
  rw [if_neg (by omega), add_ok (by omega), ok_bind, if_neg (by omega), if_neg (by omega), sub_ok (by omega) hn, ok_bind,
    h1, ok_bind, powMod_spec (by omega) hn, ok_bind, mrLoop_spec _ _ _ hn (Nat.mod_lt _ (by omega))]
  have key : ∀ r, (a ^ d % n) ^ 2 ^ r % n = a ^ (2 ^ r * d) % n := fun r => by
    rw [← Nat.pow_mod, ← Nat.pow_mul, Nat.mul_comm]
  simp only [strongProbablePrime_iff h2 h3, key]
  by_cases hx : a ^ d % n = 1 <;> simp [hx, pure_eq_ok]

theorem squareTest_spec {n c : Nat} (hc : 0 < c) : squareTest n c = W.ok (decide (c * c = n)) := by
  have key : c * c = n ↔ n / c = c ∧ n % c = 0 := by
    constructor
    · rintro rfl; exact ⟨Nat.mul_div_cancel c hc, Nat.mul_mod_left c c⟩
    · rintro ⟨h1, h2⟩; have := Nat.div_add_mod n c; rw [h1, h2] at this; omega
  unfold squareTest
  rw [div_ok hc, ok_bind]
  split
  next h => rw [mod_ok hc, ok_bind, pure_eq_ok]; simp only [key, h, true_and]
  next h => rw [pure_eq_ok]; simp only [key, h, false_and, decide_false]

/-- Integer AM–GM: a Newton step from any `x ≥ 1` lands at or above `⌊√n⌋`. -/
theorem newton_ge_sqrt (n x : Nat) (hx : 0 < x) : Nat.sqrt n ≤ (x + n / x) / 2 := by
  have hs : Nat.sqrt n * Nat.sqrt n ≤ n := Nat.sqrt_le n
  have h2 : 2 * Nat.sqrt n - x ≤ n / x := by
    rw [Nat.le_div_iff_mul_le hx]
    by_cases hle : x ≤ 2 * Nat.sqrt n
    · have : (2 * Nat.sqrt n - x) * x ≤ Nat.sqrt n * Nat.sqrt n := by
        zify [hle]
        nlinarith [sq_nonneg ((Nat.sqrt n : ℤ) - (x : ℤ))]
      omega
    · have : 2 * Nat.sqrt n - x = 0 := by omega
      rw [this]; simp
  omega

theorem newton_lt_of_sqrt_lt (n x : Nat) (hx : Nat.sqrt n < x) : (x + n / x) / 2 < x := by
  have h1 : n < x * x := Nat.sqrt_lt.1 hx
  have h2 : n / x < x := by
    rw [Nat.div_lt_iff_lt_mul (by omega)]
    exact h1
  omega

theorem perfectSquareLoop_spec (fuel prev n : Nat) (hn2 : 2 ≤ n) (hn : n < 2 ^ 64) (hf : prev + 1 ≤ fuel)
    (hsp : Nat.sqrt n ≤ prev) (hhalf : prev ≤ n / 2) :
    perfectSquareLoop fuel prev n = W.ok (decide (Nat.sqrt n * Nat.sqrt n = n)) := by
  fun_induction perfectSquareLoop fuel prev n with
  | case1 prev n => omega
  | case2 prev n fuel ih =>
    have hs1 : 1 ≤ Nat.sqrt n := by rw [Nat.le_sqrt]; omega
    generalize hcurr : (prev + n / prev) / 2 = curr
    have hsum : prev + n / prev < 2 ^ 64 := by
      by_cases hp : prev = 1
      · have := Nat.sqrt_lt.1 (show Nat.sqrt n < 2 by omega)
        rw [hp, Nat.div_one]
        omega
      · have : n / prev ≤ n / 2 := Nat.div_le_div_left (by omega) (by decide)
        omega
    have hcs : Nat.sqrt n ≤ curr := hcurr ▸ newton_ge_sqrt n prev (by omega)
    rw [div_ok (by omega), ok_bind, add_ok hsum, ok_bind, div_ok (by decide), ok_bind, hcurr,
      squareTest_spec (by omega), ok_bind]
    simp only [decide_eq_true_eq]
    split
    next hsq => rw [← hsq, Nat.sqrt_eq curr]; simp [pure_eq_ok]
    next hsq =>
      split
      · -- the iteration stops without a square only at `prev = ⌊√n⌋`, and then `n` is no square
        have hps : prev = Nat.sqrt n := by
          by_contra hne
          have := newton_lt_of_sqrt_lt n prev (by omega)
          omega
        have hnot : ¬ (Nat.sqrt n * Nat.sqrt n = n) := fun he => hsq <| by
          have hdiv : n / prev = prev := by
            have := Nat.mul_div_cancel prev (show 0 < prev by omega)
            rwa [hps, he, ← hps] at this
          rw [← hcurr, hdiv, show (prev + prev) / 2 = prev by omega, hps, he]
        simp [hnot, pure_eq_ok]
      · exact ih _ hn2 hn (by omega) hcs (by omega)

theorem isPerfectSquare_spec (n : Nat) (hn : n < 2 ^ 64) :
    isPerfectSquare n = W.ok (decide (Nat.sqrt n * Nat.sqrt n = n)) := by
  unfold isPerfectSquare
  split
  · have : n = 0 ∨ n = 1 := by omega
    rcases this with rfl | rfl <;> simp [pure_eq_ok]
  · rw [div_ok (by decide), ok_bind]
    apply perfectSquareLoop_spec _ _ n (by omega) hn (Nat.le_refl _) _ (Nat.le_refl _)
    have hs : Nat.sqrt n * Nat.sqrt n ≤ n := Nat.sqrt_le n
    by_cases h1 : Nat.sqrt n ≤ 1
    · omega
    · have : 2 * Nat.sqrt n ≤ Nat.sqrt n * Nat.sqrt n := Nat.mul_le_mul_right _ (by omega)
      omega

end U64
end Au
