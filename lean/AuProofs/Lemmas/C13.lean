import AuProofs.Lemmas.IntTy
import AuModel.QuantityOps
namespace Au.C13
open Au IntTy

/-! What the built-in operators of `AuModel.QuantityOps` do on two operands of one type (the
conversions to the common type are no-ops and the operation is performed in the promoted type), and
what `AuModel.Layout` computes for a class with a single data member. -/

theorem addIn_ok (p : IntTy) (hp : p ∈ IntTy.all) (a b : Int) (h : p.inRange (a + b)) :
    addIn p a b = ⟨.ok (a + b), false⟩ := Step.checked_ok p hp _ _ h

theorem subIn_ok (p : IntTy) (hp : p ∈ IntTy.all) (a b : Int) (h : p.inRange (a - b)) :
    subIn p a b = ⟨.ok (a - b), false⟩ := Step.checked_ok p hp _ _ h

theorem negIn_ok (p : IntTy) (hp : p ∈ IntTy.all) (a : Int) (h : p.inRange (-a)) :
    negIn p a = ⟨.ok (-a), false⟩ := Step.checked_ok p hp _ _ h

theorem evBind_pure {α : Type} (e : Eval α) : evBind e Eval.ok = e := by
  cases e <;> rfl

theorem convert_self (F : FOps) (r : RepTy) : convert F r r = Eval.ok := by
  funext v; simp [convert]

/-- Conversion between integral types is modular; where source and destination are the same type
nothing happens, which is `wrap` again on a value of that type. -/
theorem convert_int (F : FOps) (s d : IntTy) (hd : d ∈ IntTy.all) (x : Int) (h : s = d → d.inRange x) :
    convert F (.int s) (.int d) (.int x) = .ok (.int (d.wrap x)) := by
  unfold convert
  split
  · next e => rw [wrap_of_inRange d hd x (h (RepTy.int.inj e))]
  · rfl

theorem convert_int_inRange (F : FOps) (s d : IntTy) (hd : d ∈ IntTy.all) (x : Int) (h : d.inRange x) :
    convert F (.int s) (.int d) (.int x) = .ok (.int x) := by
  rw [convert_int F s d hd x fun _ => h, wrap_of_inRange d hd x h]

variable (F : FOps) {op : ArOp} {t : IntTy} {a b r : Int}

theorem rawArith_int (ht : t ∈ IntTy.all) (ha : t.inRange a) (hb : t.inRange b) :
    rawArith F op (.int t) (.int t) (.int a) (.int b)
      = ⟨Verdict.ok, some (.val (.int t.promote)), arithIn F (.int t.promote) op (.int a) (.int b)⟩ := by
  have hp := promote_mem t ht
  simp [rawArith, RepTy.isIntegral, RepTy.uac, uac_self, evBind,
    convert_int_inRange F t _ hp _ (promote_inRange t ht _ ha),
    convert_int_inRange F t _ hp _ (promote_inRange t ht _ hb)]

theorem arithIn_exact {p : IntTy} (hp : p ∈ IntTy.all)
    (hop : (op = .add ∧ r = a + b) ∨ (op = .sub ∧ r = a - b) ∨ (op = .mul ∧ r = a * b))
    (hr : p.inRange r) : arithIn F (.int p) op (.int a) (.int b) = .ok (.int r) := by
  rcases hop with ⟨rfl, rfl⟩ | ⟨rfl, rfl⟩ | ⟨rfl, rfl⟩
  · simp [arithIn, stepVal, addIn_ok p hp a b hr]
  · simp [arithIn, stepVal, subIn_ok p hp a b hr]
  · simp [arithIn, stepVal, mulIn_ok p hp a b hr]

theorem rawArith_int_exact (ht : t ∈ IntTy.all) (ha : t.inRange a) (hb : t.inRange b)
    (hop : (op = .add ∧ r = a + b) ∨ (op = .sub ∧ r = a - b) ∨ (op = .mul ∧ r = a * b))
    (hr : t.promote.inRange r) :
    rawArith F op (.int t) (.int t) (.int a) (.int b)
      = ⟨Verdict.ok, some (.val (.int t.promote)), .ok (.int r)⟩ := by
  rw [rawArith_int F ht ha hb, arithIn_exact F (promote_mem t ht) hop hr]

theorem rawAssign_int (ht : t ∈ IntTy.all) (hr : t.promote.inRange r)
    (h : rawArith F op (.int t) (.int t) (.int a) (.int b)
      = ⟨Verdict.ok, some (.val (.int t.promote)), .ok (.int r)⟩) :
    rawAssign F op (.int t) (.int t) (.int a) (.int b)
      = ⟨Verdict.ok, some (.ref (.int t)), .ok (.int (t.wrap r))⟩ := by
  simp only [rawAssign, h, evBind, convert_int F t.promote t ht r fun e => e ▸ hr]

theorem rawAssign_int_of_inRange (ht : t ∈ IntTy.all) (hr : t.inRange r)
    (h : rawArith F op (.int t) (.int t) (.int a) (.int b)
      = ⟨Verdict.ok, some (.val (.int t.promote)), .ok (.int r)⟩) :
    rawAssign F op (.int t) (.int t) (.int a) (.int b)
      = ⟨Verdict.ok, some (.ref (.int t)), .ok (.int r)⟩ := by
  rw [rawAssign_int F ht (promote_inRange t ht r hr) h, wrap_of_inRange t ht r hr]

theorem rawArith_flt (hop : op ≠ .mod) (k : FltK) (x y : Nat) :
    rawArith F op (.flt k) (.flt k) (.flt x) (.flt y)
      = ⟨Verdict.ok, some (.val (.flt k)), .ok (.flt (F.bin k op x y))⟩ := by
  cases op <;> simp [rawArith, RepTy.uac, convert_self, evBind, arithIn] at hop ⊢

theorem rawAssign_flt (hop : op ≠ .mod) (k : FltK) (x y : Nat) :
    rawAssign F op (.flt k) (.flt k) (.flt x) (.flt y)
      = ⟨Verdict.ok, some (.ref (.flt k)), .ok (.flt (F.bin k op x y))⟩ := by
  simp [rawAssign, rawArith_flt F hop, evBind, convert_self]

theorem roundUp_mul (k a : Nat) (h : 0 < a) : roundUp (k * a) a = k * a := by
  have : (k * a + a - 1) / a = k := by
    rw [Nat.add_sub_assoc h, Nat.mul_comm, Nat.mul_add_div h, Nat.div_eq_of_lt (by omega), Nat.add_zero]
  simp [roundUp, Nat.ne_of_gt h, this]

theorem rep_size_align : ∀ R ∈ RepTy.all, 0 < R.align ∧ R.size = R.align := by decide

theorem layout_single (s : Nat) (hs : 0 < s) : layoutFields [⟨s, s⟩] 0 1 = ⟨s, s⟩ := by
  have h0 := roundUp_mul 0 s hs
  have h1 := roundUp_mul 1 s hs
  rw [Nat.zero_mul] at h0
  rw [Nat.one_mul] at h1
  simp only [layoutFields, h0, Nat.zero_add, Nat.max_eq_left hs, Nat.max_eq_right hs, h1]

/-- The five facts of the layout clause with the nesting depth explored as a parameter
(`classFacts` is the instance `layoutFuel`). -/
def factsAt (env : ClassEnv) (n : Nat) (d : ClassD) (R : RepTy) : ClassFacts :=
  ⟨classLayout env R n d, triviallyCopyable env n d, triviallyDestructible env n d,
    standardLayout env n d, defaultContent env n d⟩

/-- No bases, nothing virtual, no user-provided special member functions. -/
def Plain (d : ClassD) : Prop :=
  d.bases = [] ∧ d.nVirtualBases = 0 ∧ d.nVirtualFns = 0 ∧ d.userCopyCtor = false ∧
    d.userMoveCtor = false ∧ d.userCopyAssign = false ∧ d.userMoveAssign = false ∧ d.userDtor = false

theorem Plain.own {d : ClassD} (h : Plain d) {f : FieldD} (hf : d.fields = [f]) :
    ownTriviallyCopyable d = true ∧ ownTriviallyDestructible d = true ∧ ownStandardLayout d = true ∧
      ¬ (d.bases ≠ [] ∨ d.nVirtualBases ≠ 0 ∨ d.nVirtualFns ≠ 0) := by
  obtain ⟨hb, hvb, hvf, hcc, hmc, hca, hma, hdt⟩ := h
  simp [ownTriviallyCopyable, ownTriviallyDestructible, ownStandardLayout, hb, hvb, hvf, hcc, hmc, hca, hma, hdt, hf]

theorem factsAt_rep_member (env : ClassEnv) {d : ClassD} {f : FieldD} {R : RepTy} (hp : Plain d)
    (hf : d.fields = [f]) (hty : f.ty = .rep) (hR : R ∈ RepTy.all) (n : Nat)
    (hdflt : defaultContent env (n + 1) d = .zero) : factsAt env (n + 1) d R = transparentFacts R := by
  obtain ⟨ha, hsz⟩ := rep_size_align R hR
  obtain ⟨h1, h2, h3, h4⟩ := hp.own hf
  simp [factsAt, transparentFacts, classLayout, triviallyCopyable, triviallyDestructible, standardLayout,
    classAll, allSome, h1, h2, h3, h4, hf, hty, hdflt, hsz, layout_single R.align ha]

theorem factsAt_cls_member (env : ClassEnv) {d q : ClassD} {f : FieldD} {c : String} {R : RepTy}
    (hp : Plain d) (hf : d.fields = [f]) (hty : f.ty = .cls c) (hq : env.find c = some q)
    (hR : R ∈ RepTy.all) (n : Nat) (hfacts : factsAt env n q R = transparentFacts R)
    (hdflt : defaultContent env (n + 1) d = .zero) : factsAt env (n + 1) d R = transparentFacts R := by
  obtain ⟨ha, hsz⟩ := rep_size_align R hR
  obtain ⟨h1, h2, h3, h4⟩ := hp.own hf
  simp only [factsAt, transparentFacts, ClassFacts.mk.injEq, triviallyCopyable, triviallyDestructible,
    standardLayout] at hfacts
  obtain ⟨q1, q2, q3, q4, _⟩ := hfacts
  simp [factsAt, transparentFacts, classLayout, triviallyCopyable, triviallyDestructible, standardLayout,
    classAll, allSome, h1, h2, h3, h4, hf, hty, hq, q1, q2, q3, q4, hdflt, hsz, layout_single R.align ha]

theorem narrows_self (R : RepTy) : narrows R R = false := by
  cases R <;> simp [narrows]

/-- `return {expr};` into the declared type `Quantity<U, R>`, `expr` of type `s`. -/
theorem viaListInit_eq (F : FOps) (R s : RepTy) (v : Verdict) (e : Eval Val) :
    viaListInit F R ⟨v, some (.val s), e⟩
      = ⟨⟨v.gcc, v.clang && !narrows s R⟩, some (.val R), evBind e (convert F s R)⟩ := by
  cases h : narrows s R <;> simp [viaListInit, listInitQty, h, Verdict.ok, Verdict.narrowing, qtyTy]

/-- `%` and unary `+`, `-` are the operators whose body is `return {expr};` (quantity.hh:343-347). -/
theorem qOp_listInit (F : FOps) (o : OpName) (ho : o = .mod ∨ ∃ w, o = .un w) (R T : RepTy) (a b : Val)
    (u : Bool) :
    qOp F o R T a b u = viaListInit F R (rawOp F o R T a b) ∧
    (rawOp F o R T a b = ⟨Verdict.ok, some (.val R.promote), (rawOp F o R T a b).val⟩ ∨
      R.isIntegral = false ∧ rawOp F o R T a b = OpResult.illFormed) := by
  rcases ho with rfl | ⟨w, rfl⟩
  · refine ⟨rfl, ?_⟩
    cases R <;> simp [rawOp, rawArith, RepTy.isIntegral, RepTy.uac, RepTy.promote, uac_self]
  · exact ⟨rfl, .inl rfl⟩

/-- The region of F4 is where `{expr}` has to convert: `expr` has the promoted type, not `R`. -/
theorem inF4_iff (o : OpName) (R : RepTy) :
    inF4 o R = true ↔ (o = .mod ∨ ∃ w, o = .un w) ∧ ∃ t, R = .int t ∧ t.bits < 32 := by
  cases o <;> cases R <;> simp [inF4]

theorem qOp_listInit_outside (F : FOps) (o : OpName) (ho : o = .mod ∨ ∃ w, o = .un w) (R T : RepTy)
    (a b : Val) (u : Bool) (hF4 : inF4 o R = false) : qOp F o R T a b u = rawOp F o R T a b := by
  have hp : R.promote = R := by
    cases R with
    | flt k => rfl
    | int t =>
      have : ¬ t.bits < 32 := fun hlt => by simp [(inF4_iff o (.int t)).2 ⟨ho, t, rfl, hlt⟩] at hF4
      exact congrArg RepTy.int (promote_of_ge32 t this)
  obtain ⟨hq, hr | ⟨_, hr⟩⟩ := qOp_listInit F o ho R T a b u
  · -- `{expr}` into the type `expr` already has: no narrowing, the identity conversion
    rw [hq, hr, viaListInit_eq, hp, narrows_self, convert_self, evBind_pure]
    rfl
  · rw [hq, hr]; rfl

end Au.C13
