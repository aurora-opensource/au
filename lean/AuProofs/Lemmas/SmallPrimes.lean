/-
  `is_prime n ↔ Nat.Prime n`, unconditionally, for every n below 2^16, by kernel evaluation.

  What is evaluated is not the model itself (every `uint64_t` operation in the `W` monad, three flags
  each) but its values: `strongLucasV` below repeats `strong_lucas` on plain naturals, and
  `strongLucas_eq` says once, for every odd non-square `n < 2^64 - 1`, that the model returns the
  same result with all flags clear.  Miller–Rabin needs no evaluation of the model at all
  (`millerRabin_spec`), and primality of `n` itself is one gcd with `255!` (`smallPrime`).
  `none` = the value form gives up (fuel, |D| ≥ n, |D| ≥ 2^31).  Even numbers are argued, not swept.
  `stripTwosV`, `jacobiV`, `lucasAtV` use `bif`, `Nat.beq`, `Nat.blt`: the kernel has these built in; an
  `if` on a `Decidable` instance costs it more than the arithmetic.
-/
import AuModel.Factoring
import AuProofs.Lemmas.Primes
import Mathlib.Data.Nat.Prime.Factorial
namespace Au
namespace U64

/- The Jacobi symbol is followed with its sign as a `Bool` (`result = boolSign pos`). -/

theorem boolSign_mul (a b : Bool) : boolSign a * boolSign b = boolSign (!(a ^^ b)) := by
  cases a <;> cases b <;> rfl

def stripTwosV : Nat → Nat → Bool → Bool → Option (Nat × Bool)
  | fuel, a, pos, even =>
    bif (a % 2).beq 0 then
      match fuel with
      | 0 => none
      | fuel + 1 => stripTwosV fuel (a / 2) (!(pos ^^ even)) even
    else some (a, pos)

theorem stripTwos_eq (even : Bool) (fuel a : Nat) (pos : Bool) (v : Nat × Bool)
    (h : stripTwosV fuel a pos even = some v) :
    stripTwos fuel a (boolSign pos) (boolSign even) = W.ok (v.1, boolSign v.2) ∧ v.1 % 2 = 1 := by
  fun_induction stripTwosV fuel a pos even with
  | case1 => cases h
  | case2 a pos even ha fuel ih =>
    rw [stripTwos, if_pos (Nat.eq_of_beq_eq_true ha), div_ok (by decide), ok_bind, boolSign_mul]
    exact ih h
  | case3 fuel a pos even ha =>
    cases h
    have ha := Nat.ne_of_beq_eq_false ha
    exact ⟨by unfold stripTwos; rw [if_neg ha]; rfl, by omega⟩

def jacobiV : Nat → Nat → Nat → Bool → Option Int
  | fuel, a, n, pos =>
    bif a.beq 0 then some 0
    else
      match fuel with
      | 0 => none
      | fuel + 1 =>
        match stripTwosV a a pos ((n % 8).beq 1 || (n % 8).beq 7) with
        | none => none
        | some (a, pos) =>
          bif a.beq 1 then some (boolSign pos)
          else bif (Nat.gcd a n).beq 1 then jacobiV fuel (n % a) a (!(pos ^^ ((a % 4).beq 1 || (n % 4).beq 1)))
          else some 0

theorem beq_eq_decide (a b : Nat) : a.beq b = decide (a = b) := by
  rw [Bool.eq_iff_iff, Nat.beq_eq, decide_eq_true_iff]

theorem jacobiLoop_succ {fuel a n a' : Nat} {pos pos' : Bool} (ha : a ≠ 0)
    (hs : stripTwosV a a pos ((n % 8).beq 1 || (n % 8).beq 7) = some (a', pos')) :
    jacobiLoop (fuel + 1) a n (boolSign pos) =
      if a' = 1 then W.ok (boolSign pos')
      else if Nat.gcd a' n ≠ 1 then W.ok 0
      else jacobiLoop fuel (n % a') a' (boolSign (!(pos' ^^ ((a' % 4).beq 1 || (n % 4).beq 1)))) := by
  obtain ⟨hs, hodd⟩ := stripTwos_eq _ _ _ _ _ hs
  rw [jacobiLoop, if_pos ha]
  -- `dsimp only` reduces the `let signForEven := …` here and the pattern `let (a, result) ← …` below
  dsimp only at hodd ⊢
  simp only [beq_eq_decide] at hs ⊢
  rw [hs, ok_bind]
  dsimp only
  split
  · rfl
  · rw [gcd_spec, ok_bind]
    split
    · rfl
    · rw [mod_ok (by omega), ok_bind, boolSign_mul]

theorem jacobiLoop_eq (fuel a n : Nat) (pos : Bool) (v : Int) (h : jacobiV fuel a n pos = some v) :
    jacobiLoop fuel a n (boolSign pos) = W.ok v := by
  fun_induction jacobiV fuel a n pos with
  | case1 fuel a n pos ha =>
    cases h
    unfold jacobiLoop
    rw [if_neg (not_not.2 (Nat.eq_of_beq_eq_true ha))]
    rfl
  | case2 => cases h
  | case3 => cases h
  | case4 a n pos ha fuel a' pos' hs h1 =>
    cases h
    rw [jacobiLoop_succ (Nat.ne_of_beq_eq_false ha) hs, if_pos (Nat.eq_of_beq_eq_true h1)]
  | case5 a n pos ha fuel a' pos' hs h1 hg ih =>
    rw [jacobiLoop_succ (Nat.ne_of_beq_eq_false ha) hs, if_neg (Nat.ne_of_beq_eq_false h1),
      if_neg (not_not.2 (Nat.eq_of_beq_eq_true hg))]
    exact ih h
  | case6 a n pos ha fuel a' pos' hs h1 hg =>
    cases h
    rw [jacobiLoop_succ (Nat.ne_of_beq_eq_false ha) hs, if_neg (Nat.ne_of_beq_eq_false h1),
      if_pos (Nat.ne_of_beq_eq_false hg)]

/-- For a candidate below `2^31` (where `static_cast<int>` keeps its value) and below `n`, `jacobi_symbol` goes
straight into its loop: `|as_int(D)|` is `D.mag`, reduced already. -/
theorem jacobiSymbol_asInt {D : LucasD} {n : Nat} (h0 : 0 < D.mag) (h31 : D.mag < 2147483648) (hn : D.mag < n) :
    jacobiSymbol D.asInt n = jacobiLoop D.mag D.mag n (boolSign (D.isPositive || (n % 4).beq 1)) := by
  have hc : castInt32 D.mag = D.mag := by
    unfold castInt32
    rw [Nat.mod_eq_of_lt (by omega)]
    exact if_neg (by omega)
  -- `as_int(D)` is `± D.mag`: not `INT64_MIN`, non-negative exactly for a positive `D`, of absolute value `D.mag`
  obtain ⟨hmin, hpos, habs⟩ : D.asInt ≠ -9223372036854775808 ∧ decide (D.asInt ≥ 0) = D.isPositive ∧
      (D.asInt * boolSign D.isPositive).toNat = D.mag := by
    unfold LucasD.asInt
    rw [hc]
    cases D.isPositive
    case true =>
      rw [show boolSign true = 1 from rfl]
      exact ⟨by omega, decide_eq_true (by omega), by omega⟩
    case false =>
      rw [show boolSign false = -1 from rfl]
      exact ⟨by omega, decide_eq_false (by omega), by omega⟩
  unfold jacobiSymbol jacobiSymbolPositiveNumerator
  rw [if_neg (by omega), if_neg hmin, pure_eq_ok, ok_bind, hpos, habs, mod_ok (by omega), ok_bind, Nat.mod_eq_of_lt hn,
    beq_eq_decide]

/-- The search for `D`.  It gives up (`none`) as soon as a candidate's magnitude reaches `n` or `2^31`, so every
candidate it looks at is below `n`: what `mul_mod(D.mag, ·, n)` needs later. -/
def findFirstDV : Nat → LucasD → Nat → Option LucasD
  | fuel, D, n =>
    bif D.mag.blt n && D.mag.blt 2147483648 then
      match jacobiV D.mag D.mag n (D.isPositive || (n % 4).beq 1) with
      | none => none
      | some j =>
        if j ≠ -1 then
          match fuel with
          | 0 => none
          | fuel + 1 => findFirstDV fuel ⟨D.mag + 2, !D.isPositive⟩ n
        else some D
    else none

theorem findFirstD_eq {n : Nat} (hn : n + 1 < 2 ^ 64) (fuel : Nat) (D D' : LucasD) (h0 : 0 < D.mag)
    (h : findFirstDV fuel D n = some D') : findFirstD fuel D n = W.ok D' ∧ D'.mag < n := by
  fun_induction findFirstDV fuel D n with
  | case1 => cases h
  | case2 => cases h
  | case3 D n hD j hj h1 fuel ih =>
    rw [Bool.and_eq_true, Nat.blt_eq, Nat.blt_eq] at hD
    rw [findFirstD, jacobiSymbol_asInt h0 hD.2 hD.1, jacobiLoop_eq _ _ _ _ _ hj, ok_bind, if_pos h1, add_ok (by omega), ok_bind]
    exact ih hn (Nat.succ_pos _) h
  | case4 fuel D n hD j hj h1 =>
    cases h
    rw [Bool.and_eq_true, Nat.blt_eq, Nat.blt_eq] at hD
    refine ⟨?_, hD.1⟩
    unfold findFirstD
    rw [jacobiSymbol_asInt h0 hD.2 hD.1, jacobiLoop_eq _ _ _ _ _ hj, ok_bind, if_neg h1]
    rfl
  | case5 => cases h

/-- `D.is_positive ? add_mod(a, b, n) : sub_mod(a, b, n)`. -/
def addSubV (D : LucasD) (a b n : Nat) : Nat := (a + bif D.isPositive then b else n - b) % n

def doubleV (e : LucasElt) (n : Nat) (D : LucasD) : LucasElt :=
  ⟨e.U * e.V % n, halfV (addSubV D (e.V * e.V % n) (D.mag * (e.U * e.U % n) % n) n) n⟩

def incrementV (e : LucasElt) (n : Nat) (D : LucasD) : LucasElt :=
  ⟨halfV ((e.U + e.V) % n) n, halfV (addSubV D e.V (D.mag * e.U % n) n) n⟩

section Steps
variable {n : Nat} {D : LucasD} (hodd : n % 2 = 1) (hn : n < 2 ^ 64) (hD : D.mag < n)
include hodd hn hD

omit hodd hD in
/-- The left side is how `do` elaborates `let v ← if … then … else …; f v`: the continuation goes into
both branches. -/
theorem addSub_bind {β : Type} (f : Nat → W β) {a b : Nat} (ha : a < n) (hb : b < n) :
    (if D.isPositive = true then addMod a b n >>= f else subMod a b n >>= f) = f (addSubV D a b n) := by
  unfold addSubV
  cases D.isPositive
  · simp only [Bool.false_eq_true, if_false, subMod_spec ha hb hn, ok_bind, cond_false]
  · simp only [if_true, addMod_spec (Nat.le_of_lt ha) hb hn, ok_bind, cond_true]

theorem doubleStrongLucasIndex_eq {e : LucasElt} (hU : e.U < n) (hV : e.V < n) :
    doubleStrongLucasIndex e n D = W.ok (doubleV e n D) ∧ (doubleV e n D).U < n ∧ (doubleV e n D).V < n := by
  have h0 : 0 < n := by omega
  have lt : ∀ x, x % n < n := fun x => Nat.mod_lt x h0
  have hlt : addSubV D (e.V * e.V % n) (D.mag * (e.U * e.U % n) % n) n < n := lt _
  refine ⟨?_, lt _, (halfV_spec hlt hodd).1⟩
  unfold doubleStrongLucasIndex
  rw [mulMod_spec hV hV hn, ok_bind, mulMod_spec hU hU hn, ok_bind, mulMod_spec hD (lt _) hn, ok_bind]
  dsimp only  -- beta-reduces what `rw [ok_bind]` leaves applied
  rw [addSub_bind hn _ (lt _) (lt _), halfModOdd_spec hlt hodd hn, ok_bind, mulMod_spec hU hV hn, ok_bind]
  rfl

theorem incrementStrongLucasIndex_eq {e : LucasElt} (hU : e.U < n) (hV : e.V < n) :
    incrementStrongLucasIndex e n D = W.ok (incrementV e n D) ∧ (incrementV e n D).U < n ∧ (incrementV e n D).V < n := by
  have h0 : 0 < n := by omega
  have lt : ∀ x, x % n < n := fun x => Nat.mod_lt x h0
  have hlt : addSubV D e.V (D.mag * e.U % n) n < n := lt _
  refine ⟨?_, (halfV_spec (lt (e.U + e.V)) hodd).1, (halfV_spec hlt hodd).1⟩
  unfold incrementStrongLucasIndex
  rw [addMod_spec (Nat.le_of_lt hU) hV hn, ok_bind, halfModOdd_spec (lt _) hodd hn, ok_bind, mulMod_spec hD hU hn, ok_bind]
  dsimp only
  rw [addSub_bind hn _ hV (lt _), halfModOdd_spec hlt hodd hn, ok_bind]
  rfl

/-- One round of the loop of `find_strong_lucas_element`. -/
def lucasStepV (n : Nat) (D : LucasD) (b : Bool) (e : LucasElt) : LucasElt :=
  bif b then incrementV (doubleV e n D) n D else doubleV e n D

theorem lucasFold_cons_eq (b : Bool) (bs : List Bool) {e : LucasElt} (hU : e.U < n) (hV : e.V < n) :
    lucasFold n D (b :: bs) e = lucasFold n D bs (lucasStepV n D b e) ∧
      (lucasStepV n D b e).U < n ∧ (lucasStepV n D b e).V < n := by
  obtain ⟨h1, h2, h3⟩ := doubleStrongLucasIndex_eq hodd hn hD hU hV
  unfold lucasStepV
  rw [lucasFold, h1, ok_bind]
  cases b
  · exact ⟨rfl, h2, h3⟩
  · obtain ⟨h4, h5, h6⟩ := incrementStrongLucasIndex_eq hodd hn hD h2 h3
    rw [if_pos rfl, h4, ok_bind]
    exact ⟨rfl, h5, h6⟩

/-- The element of index `i`, from the top bit of `i` down: what the loop over the stored bits
computes, without the list (whose construction and reversal cost the kernel as much as the
arithmetic). -/
def lucasAtV (n : Nat) (D : LucasD) : Nat → Nat → LucasElt
  | 0, _ => {}
  | fuel + 1, i => bif Nat.blt 1 i then lucasStepV n D (Nat.beq (i % 2) 1) (lucasAtV n D fuel (i / 2)) else {}

/-- Stated with the rest `l` of the list, so that the induction needs no lemma about appending. -/
theorem lucasFold_bits_eq (h1 : 1 < n) (fuel i : Nat) :
    (∀ l, lucasFold n D ((lucasBits fuel i).reverse ++ l) {} = lucasFold n D l (lucasAtV n D fuel i)) ∧
      (lucasAtV n D fuel i).U < n ∧ (lucasAtV n D fuel i).V < n := by
  fun_induction lucasAtV n D fuel i with
  | case1 => exact ⟨fun _ => rfl, h1, h1⟩
  | case2 fuel i hi ih =>
    obtain ⟨h, hU, hV⟩ := ih
    refine ⟨fun l => ?_, (lucasFold_cons_eq hodd hn hD _ [] hU hV).2⟩
    rw [lucasBits, if_pos (Nat.blt_eq.mp hi), List.reverse_cons, List.append_assoc, h, ← beq_eq_decide]
    exact (lucasFold_cons_eq hodd hn hD _ l hU hV).1
  | case3 fuel i hi => rw [lucasBits, if_neg (mt Nat.blt_eq.mpr (ne_true_of_eq_false hi))]; exact ⟨fun _ => rfl, h1, h1⟩

def lucasTailV (n : Nat) (D : LucasD) : Nat → LucasElt → PrimeResult
  | 0, _ => .composite
  | k + 1, e => if e.V = 0 then .probablyPrime else lucasTailV n D k (doubleV e n D)

theorem lucasTail_eq : ∀ (k : Nat) (e : LucasElt), e.U < n → e.V < n →
    lucasTail n D k e = W.ok (lucasTailV n D k e) := by
  intro k
  induction k with
  | zero => intro e _ _; rfl
  | succ k ih =>
    intro e hU hV
    obtain ⟨h1, h2, h3⟩ := doubleStrongLucasIndex_eq hodd hn hD hU hV
    unfold lucasTail lucasTailV
    split
    · rfl
    · rw [h1, ok_bind]; exact ih _ h2 h3

end Steps

/-- `strong_lucas` on an odd `n ≥ 3` that is not a perfect square. -/
def strongLucasV (dFuel n : Nat) : Option PrimeResult :=
  match findFirstDV dFuel {} n with
  | none => none
  | some D =>
    let w := decomposeV (n + 1)
    let e := lucasAtV n D 64 w.oddRemainder
    some (if e.U = 0 then .probablyPrime else lucasTailV n D w.powerOfTwo e)

theorem strongLucas_eq {dFuel n : Nat} (hodd : n % 2 = 1) (hn : n + 1 < 2 ^ 64) (hsq : ¬ ∃ k, k * k = n)
    {r : PrimeResult} (h : strongLucasV dFuel n = some r) : strongLucas dFuel n = W.ok r := by
  -- an odd `n < 3` is the square 1
  have h3 : 3 ≤ n := by
    rcases Nat.lt_or_ge n 3 with hlt | hge
    · exact absurd ⟨1, by omega⟩ hsq
    · exact hge
  unfold strongLucasV at h
  unfold strongLucas
  have hs : Nat.sqrt n * Nat.sqrt n ≠ n := fun e => hsq ⟨_, e⟩
  rw [if_neg (by omega), isPerfectSquare_spec n (by omega), ok_bind, decide_eq_false hs]
  simp only [Bool.false_eq_true, if_false]
  split at h
  next => cases h
  next D hDV =>
    obtain ⟨hD, hlt⟩ := findFirstD_eq hn _ _ _ (by decide) hDV
    obtain ⟨h1, h2, h4⟩ := lucasFold_bits_eq hodd (by omega) hlt (by omega) 64 (decomposeV (n + 1)).oddRemainder
    simp only [Option.some.injEq] at h
    rw [hD, ok_bind, add_ok hn, ok_bind, (decompose_eq (by omega) hn).1, ok_bind]
    unfold findStrongLucasElement
    rw [← List.append_nil (List.reverse _), h1 [], lucasFold, pure_eq_ok, ok_bind, ← h]
    split
    · rfl
    · exact lucasTail_eq hodd (by omega) hlt _ _ h2 h4

/-- A strong probable prime is a Fermat probable prime: with `a ^ (2^r d) ≡ -1`, the square is `≡ 1`, and
`n - 1` is a multiple of `2^(r+1) d`. -/
theorem StrongProbablePrime.fermat {a n : Nat} (hn : 1 < n) (h : StrongProbablePrime a n) : a ^ (n - 1) % n = 1 := by
  obtain ⟨s, d, hsd, -, h1 | ⟨r, hr, h2⟩⟩ := h
  · rw [hsd, Nat.mul_comm, Nat.pow_mul, Nat.pow_mod, h1, Nat.one_pow, Nat.mod_eq_of_lt hn]
  · have hsq : (n - 1) ^ 2 % n = 1 := by
      obtain ⟨m, rfl⟩ : ∃ m, n = m + 2 := ⟨n - 2, by omega⟩
      rw [show (m + 2 - 1) ^ 2 = 1 + (m + 2) * m by simp only [Nat.add_succ_sub_one]; ring,
        Nat.add_mul_mod_self_left, Nat.mod_eq_of_lt hn]
    rw [hsd, show 2 ^ s = 2 ^ r * 2 * 2 ^ (s - r - 1) by rw [← Nat.pow_succ, ← Nat.pow_add]; congr 1; omega,
      show 2 ^ r * 2 * 2 ^ (s - r - 1) * d = 2 ^ r * d * 2 * 2 ^ (s - r - 1) by ring,
      Nat.pow_mul, Nat.pow_mul, Nat.pow_mod, Nat.pow_mod (a ^ (2 ^ r * d)), h2, hsq, Nat.one_pow, Nat.mod_eq_of_lt hn]

/-- `n` is a strong probable prime to base 2 (`sprp2B_iff`).  The Fermat test in front is implied by the rest;
it is one power where the rest is several, and almost every composite fails it.  `2 ^ e` is written out in
full before `% n`: a few kilobytes for `n < 2^16`, not a way to go for a larger bound. -/
def sprp2B (n : Nat) : Bool :=
  let w := decomposeV (n - 1)
  (2 ^ (n - 1) % n).beq 1 && ((2 ^ w.oddRemainder % n == 1) ||
    (List.range w.powerOfTwo).any (fun r => 2 ^ (2 ^ r * w.oddRemainder) % n == n - 1))

theorem sprp2B_iff {n : Nat} (h2 : 2 ≤ n) (hn : n < 2 ^ 64) : sprp2B n = true ↔ StrongProbablePrime 2 n := by
  obtain ⟨-, hsd, hodd⟩ := decompose_eq (n := n - 1) (by omega) (by omega)
  unfold sprp2B
  simp only [strongProbablePrime_iff hsd hodd, Bool.and_eq_true, Bool.or_eq_true, Nat.beq_eq, beq_iff_eq,
    List.any_eq_true, List.mem_range]
  exact and_iff_right_of_imp fun h => ((strongProbablePrime_iff hsd hodd).2 h).fermat h2

/-- Miller–Rabin appears as its value `sprp2B`; only the Lucas test stays in the monad. -/
theorem isPrime_of_ge5 (fu : Fuel) {n : Nat} (h5 : 5 ≤ n) (hn : n < 2 ^ 64) :
    isPrime fu n =
      if n % 2 = 1 ∧ sprp2B n = true then strongLucas fu.dSearch n >>= fun r => pure (r == .probablyPrime)
      else W.ok false := by
  classical
  unfold isPrime bailliePSW
  rw [if_neg (by omega), if_neg (by omega)]
  by_cases hodd : n % 2 = 1
  · rw [if_neg (by omega), millerRabin_spec (by omega) (by omega) hodd hn, ok_bind]
    by_cases h : StrongProbablePrime 2 n
    · have hs : n % 2 = 1 ∧ sprp2B n = true := ⟨hodd, (sprp2B_iff (by omega) hn).2 h⟩
      simp only [if_pos h, if_pos hs, reduceCtorEq, if_false]
    · have hs : ¬ (n % 2 = 1 ∧ sprp2B n = true) := fun hs => h ((sprp2B_iff (by omega) hn).1 hs.2)
      simp only [if_neg h, if_neg hs, if_true]; rfl
  · rw [if_pos (by omega), if_neg (fun hs => hodd hs.1)]; rfl

/-- Below 2^16 a composite number has a prime factor below 2^8, which divides `255!`.  `255 - (256 - n)` is
`min (n - 1) 255`, which keeps `n` itself out of the factorial without `min` (not built into the kernel). -/
def smallPrime (n : Nat) : Bool := Nat.ble 2 n && (Nat.gcd n (255 - (256 - n)).factorial).beq 1

theorem smallPrime_iff {n : Nat} (h : n < 65536) : smallPrime n = true ↔ Nat.Prime n := by
  unfold smallPrime
  rw [Bool.and_eq_true, Nat.ble_eq, Nat.beq_eq]
  constructor
  · rintro ⟨h2, hg⟩
    by_contra hnp
    have hq := Nat.minFac_prime (n := n) (by omega)
    have hsq := Nat.minFac_sq_le_self (by omega) hnp
    have hlt : n.minFac < n := (Nat.not_prime_iff_minFac_lt h2).1 hnp
    have hq255 : n.minFac ≤ 255 := by nlinarith
    have hd : n.minFac ∣ (255 - (256 - n)).factorial := hq.dvd_factorial.2 (by omega)
    exact hq.one_lt.ne' (Nat.dvd_one.1 (hg ▸ Nat.dvd_gcd (Nat.minFac_dvd n) hd))
  · intro hp
    refine ⟨hp.two_le, (Nat.Prime.coprime_iff_not_dvd hp).2 ?_⟩
    rw [hp.dvd_factorial]
    have := hp.two_le
    omega

/-- One odd number from 5 on: the model of `is_prime` (default fuel) agrees, flags included, with `smallPrime`.
The model itself is run only where the argument above does not reach: on the few `n` for which
`strongLucasV` gives up (a candidate `D` with `|D| ≥ n`), and on the base-2 pseudoprimes. -/
def checkOne (n : Nat) : Bool :=
  match sprp2B n with
  | true => (smallPrime n && strongLucasV ({} : Fuel).dSearch n == some .probablyPrime) ||
      isPrime {} n == W.ok (smallPrime n)
  | false => !smallPrime n

theorem isPrime_of_checkOne {n : Nat} (h5 : 5 ≤ n) (hodd : n % 2 = 1) (hn : n < 65536) (h : checkOne n = true) :
    isPrime {} n = W.ok (smallPrime n) := by
  unfold checkOne at h
  rw [isPrime_of_ge5 {} h5 (by omega)]
  split at h
  next hs =>
    simp only [Bool.or_eq_true, Bool.and_eq_true, beq_iff_eq] at h
    rcases h with ⟨hp, hl⟩ | h
    · have hsq : ¬ ∃ k, k * k = n := fun ⟨k, hk⟩ =>
        ((smallPrime_iff hn).1 hp).prime.not_isSquare ⟨k, hk.symm⟩
      rw [if_pos ⟨hodd, hs⟩, strongLucas_eq hodd (by omega) hsq hl, ok_bind, hp]
      rfl
    · rw [← isPrime_of_ge5 {} h5 (by omega), h]
  next hs =>
    simp only [Bool.not_eq_true'] at h
    rw [if_neg (fun hc => Bool.noConfusion (hs ▸ hc.2)), h]

/-- `checkOne` on `lo, lo + 2, …`: an even number needs no evaluation. -/
def checkRange : Nat → Nat → Bool
  | _, 0 => true
  | lo, len + 1 => checkOne lo && checkRange (lo + 2) len

theorem checkOne_of_checkRange : ∀ (len lo : Nat), checkRange lo len = true → ∀ k, k < len → checkOne (lo + 2 * k) = true := by
  intro len
  induction len with
  | zero => intro lo _ k hk; omega
  | succ len ih =>
    intro lo h k hk
    unfold checkRange at h
    rw [Bool.and_eq_true] at h
    cases k with
    | zero => exact h.1
    | succ k => rw [show lo + 2 * (k + 1) = lo + 2 + 2 * k by omega]; exact ih _ h.2 k (by omega)

end U64
end Au
