/-
  Core Lean only.

  An expression that mixes `ZERO` with a quantity or point is, by unfolding, the same expression with
  the literal `lit0 rep` in place of `ZERO` (the `rfl` lemmas at the top).  What remains are facts about
  the built-in operators with that literal as one operand: a comparison sees only the sign class
  (`valCmp_lit0_right/left`; finite floats compare as their scaled significands, `fCmp_fin`, which
  makes the float case the integer case), and `+ 0`, `- 0` return `Val.plus0` of the stored value
  (`binop_ar_qty_zero`, `binop_add_zero_qty` at the end: what the page and a user call).
-/
import AuModel.Zero
import AuProofs.Lemmas.IntTy
namespace Au.Zero
open Au Au.IntTy

theorem binop_qty_zero (op : BinOp) (q : Qty) :
    binop op (.qty q) .zero = qtyFriend op q ⟨q.unit, lit0 q.val.rep⟩ := rfl

theorem binop_zero_qty (op : BinOp) (q : Qty) :
    binop op .zero (.qty q) = qtyFriend op ⟨q.unit, lit0 q.val.rep⟩ q := rfl

theorem compoundWithZero_eq (o : ArOp) (q : Qty) :
    compoundWithZero o q = qtyCompound o q ⟨q.unit, lit0 q.val.rep⟩ := rfl

theorem pointPlusZero_eq (dLeft : Bool) (p : Pt) :
    pointPlusZero dLeft p = ptPlusDiff dLeft p ⟨p.unit, lit0 p.val.rep⟩ := rfl

theorem qtyFriend_cmp_eq (u : UnitId) {c : CmpOp} {a b : Val} {r : Bool} (h : valCmp c a b = some r) :
    qtyFriend (.cmp c) ⟨u, a⟩ ⟨u, b⟩ = .ok (.bool r) := by
  simp [qtyFriend, h]

theorem qtyFriend_ar_eq (u : UnitId) {o : ArOp} {a b w : Val} (h : valArith o a b = some (.ok w)) :
    qtyFriend (.ar o) ⟨u, a⟩ ⟨u, b⟩ = .ok (.qty ⟨u, w⟩) := by
  simp [qtyFriend, h]

theorem addIn_eq_checked (p : IntTy) (a b : Int) :
    addIn p a b = Step.checked p (a + b) "signed overflow in addition" := rfl

theorem subIn_eq_checked (p : IntTy) (a b : Int) :
    subIn p a b = Step.checked p (a - b) "signed overflow in subtraction" := rfl

theorem addIn_zero_right {p : IntTy} (hp : p ∈ IntTy.all) {x : Int} (hx : p.inRange x) :
    addIn p x 0 = ⟨.ok x, false⟩ := by
  rw [addIn_eq_checked, Int.add_zero]; exact Step.checked_ok p hp x _ hx

theorem addIn_zero_left {p : IntTy} (hp : p ∈ IntTy.all) {x : Int} (hx : p.inRange x) :
    addIn p 0 x = ⟨.ok x, false⟩ := by
  rw [addIn_eq_checked, Int.zero_add]; exact Step.checked_ok p hp x _ hx

theorem subIn_zero_right {p : IntTy} (hp : p ∈ IntTy.all) {x : Int} (hx : p.inRange x) :
    subIn p x 0 = ⟨.ok x, false⟩ := by
  rw [subIn_eq_checked, Int.sub_zero]; exact Step.checked_ok p hp x _ hx

/-- The minimum of a signed type is the one value whose negation overflows. -/
theorem subIn_zero_left {p : IntTy} (hp : p ∈ IntTy.all) (hs : p.signed = true) {x : Int}
    (hx : p.inRange x) (hm : x ≠ p.lo) : subIn p 0 x = ⟨.ok (-x), false⟩ := by
  have h : p.inRange (-x) := by
    simp only [IntTy.inRange, IntTy.lo, IntTy.hi, hs, if_true] at hx hm ⊢
    omega
  rw [subIn_eq_checked, Int.zero_sub]; exact Step.checked_ok p hp (-x) _ h

/-- The sign class of an integer: what `Val.signClass` computes on `.int _ v`, whatever the type. -/
def SignClass.ofInt (v : Int) : SignClass := if v < 0 then .neg else if v = 0 then .zero else .pos

theorem signClass_int (t : IntTy) (v : Int) : (Val.int t v).signClass = SignClass.ofInt v := rfl

theorem intCmp_zero (op : CmpOp) (v : Int) :
    intCmp op v 0 = (SignClass.ofInt v).cmp0 op ∧ intCmp op 0 v = (SignClass.ofInt v).cmp0' op := by
  unfold SignClass.ofInt
  by_cases h1 : v < 0
  · cases op <;> simp [intCmp, SignClass.cmp0, SignClass.cmp0', h1] <;> omega
  · by_cases h2 : v = 0
    · subst h2; cases op <;> simp [intCmp, SignClass.cmp0, SignClass.cmp0']
    · cases op <;> simp [intCmp, SignClass.cmp0, SignClass.cmp0', h1, h2] <;> omega

theorem intCmp_zero_right (op : CmpOp) (v : Int) : intCmp op v 0 = (SignClass.ofInt v).cmp0 op :=
  let ⟨hright, _⟩ := intCmp_zero op v; hright

theorem intCmp_zero_left (op : CmpOp) (v : Int) : intCmp op 0 v = (SignClass.ofInt v).cmp0' op :=
  let ⟨_, hleft⟩ := intCmp_zero op v; hleft

theorem fCmp_fin (op : CmpOp) (sa : Bool) (ma : Nat) (ea : Int) (sb : Bool) (mb : Nat) (eb : Int) :
    fCmp op (.fin sa ma ea) (.fin sb mb eb) =
      intCmp op (scaled sa ma ea (min ea eb)) (scaled sb mb eb (min ea eb)) := by
  -- `.gt` and `.ge` evaluate `fLt b a`, `fEq b a`, whose common exponent is `min eb ea`
  cases op <;> simp [fCmp, fLt, fEq, intCmp, Int.min_comm eb ea, Int.le_iff_lt_or_eq, eq_comm]

theorem scaled_zero (s : Bool) (e e0 : Int) : scaled s 0 e e0 = 0 := by
  simp [scaled]

theorem scaled_pos (m : Nat) (e e0 : Int) (hm : m ≠ 0) : 0 < scaled false m e e0 := by
  have : 0 < m * 2 ^ (e - e0).toNat := Nat.mul_pos (Nat.pos_of_ne_zero hm) (Nat.two_pow_pos _)
  simp only [scaled, Bool.false_eq_true, if_false, Int.one_mul]
  omega

theorem scaled_neg (m : Nat) (e e0 : Int) (hm : m ≠ 0) : scaled true m e e0 < 0 := by
  have : 0 < m * 2 ^ (e - e0).toNat := Nat.mul_pos (Nat.pos_of_ne_zero hm) (Nat.two_pow_pos _)
  simp only [scaled, if_true]
  omega

theorem signClass_scaled (s : Bool) (m : Nat) (e e0 : Int) :
    SignClass.ofInt (scaled s m e e0) = (FVal.fin s m e).signClass := by
  by_cases hm : m = 0
  · subst hm; simp [scaled_zero, SignClass.ofInt, FVal.signClass]
  · cases s
    · have := scaled_pos m e e0 hm
      simp [SignClass.ofInt, FVal.signClass, hm, Int.not_lt.2 (Int.le_of_lt this), Int.ne_of_gt this]
    · simp [SignClass.ofInt, FVal.signClass, hm, scaled_neg m e e0 hm]

theorem fCmp_zero_right (op : CmpOp) (x : FVal) :
    fCmp op x (.fin false 0 0) = x.signClass.cmp0 op := by
  cases x with
  | nan => cases op <;> rfl
  | inf s => cases s <;> cases op <;> rfl
  | fin s m e => rw [fCmp_fin, scaled_zero, intCmp_zero_right, signClass_scaled]

theorem fCmp_zero_left (op : CmpOp) (x : FVal) :
    fCmp op (.fin false 0 0) x = x.signClass.cmp0' op := by
  cases x with
  | nan => cases op <;> rfl
  | inf s => cases s <;> cases op <;> rfl
  | fin s m e => rw [fCmp_fin, scaled_zero, intCmp_zero_left, signClass_scaled]

theorem fEq_self {x : FVal} (hn : x.signClass ≠ .nan) : fEq x x = true := by
  cases x with
  | nan => exact absurd rfl hn
  | inf s => cases s <;> rfl
  | fin s m e => simp [fEq]

theorem valCmp_lit0_right (op : CmpOp) (v : Val) :
    valCmp op v (lit0 v.rep) = some (v.signClass.cmp0 op) := by
  cases v with
  | int t x => simp [valCmp, lit0, Val.rep, signClass_int, intCmp_zero_right]
  | flt f x => simp [valCmp, lit0, Val.rep, fCmp_zero_right, Val.signClass]

theorem valCmp_lit0_left (op : CmpOp) (v : Val) :
    valCmp op (lit0 v.rep) v = some (v.signClass.cmp0' op) := by
  cases v with
  | int t x => simp [valCmp, lit0, Val.rep, signClass_int, intCmp_zero_left]
  | flt f x => simp [valCmp, lit0, Val.rep, fCmp_zero_left, Val.signClass]

theorem rne_of_wf (f : FltTy) (s : Bool) (m : Nat) (e : Int) (hm : m ≠ 0)
    (h : (FVal.fin s m e).wf f) : rne f s m e = .fin s m e := by
  simp only [FVal.wf, if_neg hm] at h
  obtain ⟨h1, h2, h3⟩ := h
  have hlog : Nat.log2 m < f.prec := (Nat.log2_lt hm).2 h1
  unfold rne
  rw [if_neg hm]
  have he : max (e + ((Nat.log2 m + 1 : Nat) : Int) - (f.prec : Int)) f.qmin ≤ e := by
    apply Int.max_le.2
    constructor
    · omega
    · exact h2
  simp only [he, if_true]
  have : ¬ ((Nat.log2 m : Int) + e > f.emax) := by omega
  rw [if_neg this]

/-- IEEE: `(-0.0) + (+0.0) = +0.0`; every other sum with a zero is the other operand, bit for bit. -/
theorem fAdd_zero (f : FltTy) (x : FVal) (h : x.wf f) :
    fAdd f x (.fin true 0 0) = x ∧
    fAdd f x (.fin false 0 0) = (if x = .fin true 0 0 then .fin false 0 0 else x) ∧
    fAdd f (.fin false 0 0) x = (if x = .fin true 0 0 then .fin false 0 0 else x) := by
  cases x with
  | nan => exact ⟨rfl, rfl, rfl⟩
  | inf s => exact ⟨rfl, rfl, rfl⟩
  | fin s m e =>
    by_cases hm : m = 0
    · subst hm
      have he : e = 0 := by simpa [FVal.wf] using h
      subst he
      cases s <;> simp [fAdd]
    · simp [fAdd, hm, rne_of_wf f s m e hm h]

theorem fAdd_negZero_right (f : FltTy) (x : FVal) (h : x.wf f) : fAdd f x (.fin true 0 0) = x :=
  let ⟨hneg, _, _⟩ := fAdd_zero f x h; hneg

theorem fAdd_zero_right (f : FltTy) (x : FVal) (h : x.wf f) :
    fAdd f x (.fin false 0 0) = (if x = .fin true 0 0 then .fin false 0 0 else x) :=
  let ⟨_, hright, _⟩ := fAdd_zero f x h; hright

theorem fAdd_zero_left (f : FltTy) (x : FVal) (h : x.wf f) :
    fAdd f (.fin false 0 0) x = (if x = .fin true 0 0 then .fin false 0 0 else x) :=
  let ⟨_, _, hleft⟩ := fAdd_zero f x h; hleft

theorem fNeg_wf (f : FltTy) (x : FVal) (h : x.wf f) : (fNeg x).wf f := by
  cases x with
  | nan => trivial
  | inf s => trivial
  | fin s m e => simpa [fNeg, FVal.wf] using h

/-- IEEE: `(+0.0) - (+0.0) = +0.0`, not `-0.0`. -/
theorem fSub_zero_left (f : FltTy) (x : FVal) (h : x.wf f) :
    fSub f (.fin false 0 0) x = if x = .fin false 0 0 then .fin false 0 0 else fNeg x := by
  unfold fSub
  rw [fAdd_zero_left f (fNeg x) (fNeg_wf f x h)]
  cases x with
  | nan => rfl
  | inf s => rfl
  | fin s m e => cases s <;> simp [fNeg]

/-- What C++ and IEEE give for `v + 0` and `v - 0`: the stored value, in the promoted type for an
integer rep; the one exception is `(-0.0) + (+0.0) = +0.0`. -/
def Val.plus0 (o : ArOp) : Val → Val
  | .int t x => .int t.promote x
  | .flt f x => .flt f (match o with
    | .add => if x = .fin true 0 0 then .fin false 0 0 else x
    | .sub => x)

/-- The one case split on `plus0` of a floating value: unchanged, or `-0.0 + 0 = +0.0`. -/
theorem plus0_flt (o : ArOp) (f : FltTy) (x : FVal) :
    (Val.flt f x).plus0 o = .flt f x ∨
      (o = .add ∧ x = .fin true 0 0 ∧ (Val.flt f x).plus0 o = .flt f (.fin false 0 0)) := by
  cases o with
  | sub => exact .inl rfl
  | add =>
    by_cases hz : x = .fin true 0 0
    · exact .inr ⟨rfl, hz, by simp [Val.plus0, hz]⟩
    · exact .inl (by simp [Val.plus0, hz])

theorem valArith_lit0_right (o : ArOp) {v : Val} (hv : v.wf) :
    valArith o v (lit0 v.rep) = some (.ok (v.plus0 o)) := by
  cases v with
  | int t x =>
    have hp := promote_mem t hv.1
    have hx := promote_inRange t hv.1 x hv.2
    cases o <;> simp [valArith, lit0, Val.rep, Val.plus0, addIn_zero_right hp hx, subIn_zero_right hp hx]
  | flt f x =>
    cases o <;> simp [valArith, lit0, Val.rep, Val.plus0, fSub, fNeg, fAdd_negZero_right f x hv,
      fAdd_zero_right f x hv]

theorem valArith_add_lit0_left {v : Val} (hv : v.wf) :
    valArith .add (lit0 v.rep) v = some (.ok (v.plus0 .add)) := by
  cases v with
  | int t x =>
    simp [valArith, lit0, Val.rep, Val.plus0,
      addIn_zero_left (promote_mem t hv.1) (promote_inRange t hv.1 x hv.2)]
  | flt f x => simp [valArith, lit0, Val.rep, Val.plus0, fAdd_zero_left f x hv]

/-- `0 - x` on an integer rep whose promoted type is signed (for `unsigned` and wider it wraps). -/
theorem valArith_sub_lit0_int {t : IntTy} {x : Int} (ht : t ∈ IntTy.all) (hx : t.inRange x)
    (hs : t.promote.signed = true) (hm : x ≠ t.promote.lo) :
    valArith .sub (lit0 (.int t)) (.int t x) = some (.ok (.int t.promote (-x))) := by
  simp [valArith, lit0, subIn_zero_left (promote_mem t ht) hs (promote_inRange t ht x hx) hm]

theorem valArith_sub_lit0_flt {f : FltTy} {x : FVal} (hx : x.wf f) :
    valArith .sub (lit0 (.flt f)) (.flt f x) =
      some (.ok (.flt f (if x = .fin false 0 0 then .fin false 0 0 else fNeg x))) := by
  simp [valArith, lit0, fSub_zero_left f x hx]

theorem binop_ar_qty_zero (u : UnitId) (v : Val) (hv : v.wf) (o : ArOp) :
    binop (.ar o) (.qty ⟨u, v⟩) .zero = .ok (.qty ⟨u, v.plus0 o⟩) :=
  (binop_qty_zero _ _).trans (qtyFriend_ar_eq u (valArith_lit0_right o hv))

theorem binop_add_zero_qty (u : UnitId) (v : Val) (hv : v.wf) :
    binop (.ar .add) .zero (.qty ⟨u, v⟩) = .ok (.qty ⟨u, v.plus0 .add⟩) :=
  (binop_zero_qty _ _).trans (qtyFriend_ar_eq u (valArith_add_lit0_left hv))

end Au.Zero
