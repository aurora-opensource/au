/-
  Accuracy of `get_value<long double>` on integer magnitudes, end to end through the model the driver runs
  (`getValueResultFlt`): base conversion (exact for primes below 2^64), `checked_int_pow` per base (`cipLoopF_ApproxF`),
  the running product (`mul_ApproxF`), and the final cast — every step adds its roundings, so for N = Π pᵢ^eᵢ

      |get_value<long double>(N) − N| ≤ N · ((1 + 2^-64)^(Σ(eᵢ+1) + 1) − 1).
-/
import AuProofs.Lemmas.FltRelErr

namespace Au

/-- The exact value of an integer magnitude (prime bases, positive integer exponents), in ℚ, the exponent read by `natAbs`.
`Mag.natValue` (ℤ, exponent by `toNat`) agrees with it under `isIntegerMag`; no lemma states this. -/
def intMagValue : Mag → ℚ
  | [] => 1
  | a :: r => (match a.1 with | .prime p => (p : ℚ) ^ a.2.num.natAbs | .pi => 1) * intMagValue r

/-- The number of roundings the pipeline spends on it: `eᵢ` in each power loop and one per multiplication. -/
def intMagRoundings : Mag → Nat
  | [] => 0
  | a :: r => (a.2.num.natAbs + 1) + intMagRoundings r

theorem intMagF_ApproxF {sf : Mag} (hint : Mag.isIntegerMag sf = true) (hok : Mag.PrimesOK sf)
    (hany : (sf.map magPowerF).any (·.isNone) = false) {acc w : Flt}
    (hw : productF ((sf.map magPowerF).filterMap id) acc = some w) :
    ∀ (X : ℚ) (N : Nat), ApproxF N X acc → ApproxF (N + intMagRoundings sf) (X * intMagValue sf) w := by
  refine intMagF_induct (motive := fun sf acc w => ∀ (X : ℚ) (N : Nat), ApproxF N X acc →
    ApproxF (N + intMagRoundings sf) (X * intMagValue sf) w) ?_ ?_ sf hint hok hany acc w hw
  · intro acc X N hacc
    simpa [intMagRoundings, intMagValue] using hacc
  · intro a s p acc x w hb hp _ hx ih X N hacc
    have hxa := checkedIntPowF_ApproxF (b := (p : ℚ)) (by exact_mod_cast (by omega : 1 ≤ p)) hx
    have := ih _ _ (mul_ApproxF hacc hxa)
    rwa [show N + a.2.num.natAbs + 1 + intMagRoundings s = N + intMagRoundings (a :: s) by rw [intMagRoundings]; omega,
      show X * (p : ℚ) ^ a.2.num.natAbs * intMagValue s = X * intMagValue (a :: s) by rw [intMagValue, hb]; ring] at this

theorem intMagValue_nonneg : ∀ m : Mag, 0 ≤ intMagValue m
  | [] => by simp [intMagValue]
  | a :: r => by
    simp only [intMagValue]
    apply mul_nonneg _ (intMagValue_nonneg r)
    cases a.1 with
    | prime p => positivity
    | pi => norm_num

/-- **`get_value<F>` of an integer magnitude, for any target format with `emin ≤ 0`**: the long-double pipeline value `x` carries
at most `Σ(eᵢ+1)` long-double roundings of `N`, and the returned value is `x` rounded ONCE more, in the target format:
`v = N·ρ·(1+δ)` with `(1−2^-64)^k ≤ ρ ≤ (1+2^-64)^k` and `|δ| ≤ 2^-prec(T)`. -/
theorem getValue_integer_accuracy (f : FltTy) (hemin : f.emin ≤ 0) (sf : Mag) (hne : sf ≠ [])
    (hint : Mag.isIntegerMag sf = true) (hok : Mag.PrimesOK sf) (v : ℚ) (h : getValueResultFlt f sf = (.ok, Flt.fin v)) :
    ∃ x : ℚ, RelN ld (intMagRoundings sf) (intMagValue sf) x ∧ 1 ≤ x ∧ RelN f 1 x v := by
  obtain ⟨w, hany, hw, -, -, hv⟩ := getValueResultFlt_of_ok hne h
  have hprod := intMagF_ApproxF hint hok hany hw 1 0 (ApproxF.exact (le_refl 1))
  simp only [Nat.zero_add, one_mul] at hprod
  cases w with
  | nan => exact hprod.elim
  | inf s => cases hv
  | fin x =>
    obtain ⟨hx, hx1⟩ : RelN ld (intMagRoundings sf) (intMagValue sf) x ∧ 1 ≤ x := hprod
    exact ⟨x, hx, hx1, rne_RelN f x (by linarith) (normal_of_ge_one f hemin x hx1) v hv.symm⟩

/-- **`get_value<long double>` of an integer magnitude is accurate to the accumulated roundoff.**  For every magnitude with
prime bases `2 ≤ p < 2^64` and positive integer exponents, whenever the model's `get_value_result<long double>` is OK with a
finite value `v`, that value is the exact integer `N = Π pᵢ^eᵢ` after at most `Σ(eᵢ+1) + 1` roundings:
`|v − N| ≤ N·((1+2^-64)^(Σ(eᵢ+1)+1) − 1)`. -/
theorem getValueLD_integer_accuracy (sf : Mag) (hne : sf ≠ []) (hint : Mag.isIntegerMag sf = true) (hok : Mag.PrimesOK sf)
    (v : ℚ) (h : getValueResultFlt ld sf = (.ok, Flt.fin v)) :
    RelN ld (intMagRoundings sf + 1) (intMagValue sf) v ∧
      |v - intMagValue sf| ≤ intMagValue sf * ((1 + uro ld) ^ (intMagRoundings sf + 1) - 1) := by
  obtain ⟨x, hx, -, hstep⟩ := getValue_integer_accuracy ld (by decide) sf hne hint hok v h
  have hrel := RelN.trans ld hx hstep
  exact ⟨hrel, RelN.abs_err ld (intMagValue_nonneg sf) hrel⟩

end Au
