/- The sweep of `checkOne` over the odd numbers in [5, 2^16), evaluated by the kernel in four theorems, so that the parts are checked in parallel. -/
import AuProofs.Lemmas.SmallPrimes
namespace Au.U64

theorem checkRange_5 : checkRange 5 8190 = true := by decide +kernel
theorem checkRange_16385 : checkRange 16385 8192 = true := by decide +kernel
theorem checkRange_32769 : checkRange 32769 8192 = true := by decide +kernel
theorem checkRange_49153 : checkRange 49153 8192 = true := by decide +kernel

theorem isPrime_exact_below_65536 (n : Nat) (h : n < 65536) : isPrime {} n = W.ok (smallPrime n) := by
  by_cases h5 : n < 5
  · exact (by decide +kernel : ∀ n < 5, isPrime {} n = W.ok (smallPrime n)) n h5
  by_cases hodd : n % 2 = 1
  · refine isPrime_of_checkOne (by omega) hodd h ?_
    have run {lo len} (hr : checkRange lo len = true) (h1 : lo ≤ n) (h2 : n < lo + 2 * len) (h3 : lo % 2 = 1) :
        checkOne n = true :=
      (show lo + 2 * ((n - lo) / 2) = n by omega) ▸ checkOne_of_checkRange _ _ hr ((n - lo) / 2) (by omega)
    by_cases h1 : n < 16385
    · exact run checkRange_5 (by omega) (by omega) rfl
    by_cases h2 : n < 32769
    · exact run checkRange_16385 (by omega) (by omega) rfl
    by_cases h3 : n < 49153
    · exact run checkRange_32769 (by omega) (by omega) rfl
    · exact run checkRange_49153 (by omega) (by omega) rfl
  · -- an even number from 5 on is rejected before any test runs, and is not prime
    have hnp : ¬ Nat.Prime n := fun hp => by have := hp.eq_two_or_odd; omega
    rw [isPrime_of_ge5 {} (by omega) (by omega), if_neg fun hs => hodd hs.1, Bool.eq_false_iff.2 (mt (smallPrime_iff h).1 hnp)]

end Au.U64
