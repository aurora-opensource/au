/-
  AuProofs.Lemmas.ChronoRne — the driver's rounding function `rne` (AuModel.Chrono) satisfies `RoundingOK`:
  every finite result of `rne` is representable in the format, every representable value is a fixed point of
  `rne`, and binary32 values are binary64 values.
-/
import AuModel.Chrono
import AuProofs.Lemmas.Ilog2
import Mathlib.Algebra.Order.Field.Rat
import Mathlib.Data.Rat.Floor
import Mathlib.Tactic.Linarith
import Mathlib.Tactic.Ring
import Mathlib.Tactic.Positivity
import Mathlib.Tactic.FieldSimp

namespace Au.Chrono

theorem pow2_eq (k : Int) : pow2 k = (2 : ℚ) ^ k := by
  unfold pow2
  split
  · rename_i h
    obtain ⟨t, rfl⟩ := Int.eq_ofNat_of_zero_le h
    simp
  · rename_i h
    have hk : k = -((-k).toNat : Int) := by omega
    generalize (-k).toNat = t at hk
    subst hk
    simp [zpow_neg]

theorem zpow_lt_of_lt {a b : Int} (h : a < b) : (2 : ℚ) ^ a < (2 : ℚ) ^ b :=
  zpow_lt_zpow_right₀ (by norm_num) h

/-- The bracket of `Au.ilog2_spec`; it applies because `Chrono.ilog2` unfolds to the same definition. -/
theorem ilog2_spec (n d : Nat) (hn : 0 < n) (hd : 0 < d) :
    (2 : ℚ) ^ (ilog2 n d) ≤ (n : ℚ) / d ∧ (n : ℚ) / d < (2 : ℚ) ^ (ilog2 n d + 1) :=
  Au.ilog2_spec n d hn hd

theorem lt_floor_add_one' (m : ℚ) : m < ((m.floor : Int) : ℚ) + 1 := by
  by_contra h
  have h1 : ((m.floor + 1 : Int) : ℚ) ≤ m := by push_cast; linarith
  have h2 : m.floor + 1 ≤ m.floor := Rat.le_floor_iff.2 h1
  omega

theorem roundEven_int (z : Int) : roundEven (z : ℚ) = z := by
  unfold roundEven
  have hf : (z : ℚ).floor = z := Rat.floor_intCast z
  simp only [hf, sub_self]
  norm_num

theorem roundEven_bounds (m : ℚ) (hm : 0 ≤ m) (B : Int) (hB : m < (B : ℚ)) :
    0 ≤ roundEven m ∧ roundEven m ≤ B := by
  have hfl0 : 0 ≤ m.floor := Rat.le_floor_iff.2 (by simpa using hm)
  have hflB : m.floor < B := by
    have : ((m.floor : Int) : ℚ) < (B : ℚ) := lt_of_le_of_lt (Rat.le_floor_iff.1 le_rfl) hB
    exact_mod_cast this
  unfold roundEven
  dsimp only
  split
  · exact ⟨hfl0, by omega⟩
  · split
    · exact ⟨by omega, by omega⟩
    · split
      · exact ⟨hfl0, by omega⟩
      · exact ⟨by omega, by omega⟩

def emin (F : Fmt) : Int := 1 - (F.emax : Int)

/-- The exponent of the quantum used for a positive `a`. -/
def qexp (F : Fmt) (a : ℚ) : Int :=
  let e := ilog2 a.num.toNat a.den
  (if e < emin F then emin F else e) - ((F.prec : Int) - 1)

/-- The rounded magnitude of a positive `a`. -/
def rMag (F : Fmt) (a : ℚ) : ℚ := (roundEven (a / (2 : ℚ) ^ qexp F a) : ℚ) * (2 : ℚ) ^ qexp F a

/-- `rne` rounds the magnitude and puts the sign back. -/
theorem rne_of_ne_zero (F : Fmt) (q : ℚ) (hq : q ≠ 0) :
    rne F q = if rMag F |q| ≥ (2 : ℚ) ^ ((F.emax : Int) + 1) then none
      else some (if q < 0 then -rMag F |q| else rMag F |q|) := by
  have ha : (if q < 0 then -q else q) = |q| := by
    split
    · rw [abs_of_neg ‹_›]
    · rw [abs_of_nonneg (not_lt.1 ‹_›)]
  unfold rne rMag qexp emin
  simp only [hq, if_false, pow2_eq, ha]

theorem ilog2_bracket_of_pos (a : ℚ) (ha : 0 < a) :
    (2 : ℚ) ^ (ilog2 a.num.toNat a.den) ≤ a ∧ a < (2 : ℚ) ^ (ilog2 a.num.toNat a.den + 1) := by
  have hnum : 0 < a.num := Rat.num_pos.2 ha
  have hcast : ((a.num.toNat : Nat) : ℚ) = (a.num : ℚ) := by
    exact_mod_cast (Int.toNat_of_nonneg hnum.le : ((a.num.toNat : Nat) : Int) = a.num)
  have := ilog2_spec a.num.toNat a.den (by omega) a.den_pos
  rwa [hcast, Rat.num_div_den] at this

theorem qexp_eq (F : Fmt) (a : ℚ) :
    qexp F a = max (emin F) (ilog2 a.num.toNat a.den) - ((F.prec : Int) - 1) := by
  unfold qexp; dsimp only; split <;> omega

theorem div_zpow_int (N : Nat) (k q0 : Int) (h : q0 ≤ k) :
    ((N : ℚ) * (2 : ℚ) ^ k) / (2 : ℚ) ^ q0 = (((N * 2 ^ (k - q0).toNat : Nat) : Int) : ℚ) := by
  obtain ⟨t, ht⟩ := Int.eq_ofNat_of_zero_le (by omega : 0 ≤ k - q0)
  have hk : k = q0 + (t : Int) := by omega
  subst hk
  have h2 : (2 : ℚ) ^ q0 ≠ 0 := ne_of_gt (two_zpow_pos _)
  have ht' : (q0 + (t : Int) - q0).toNat = t := by omega
  rw [ht', zpow_add₀ (by norm_num), zpow_natCast]
  push_cast
  field_simp

theorem rMag_of_representable (F : Fmt) (N : Nat) (k : Int) (hN1 : 1 ≤ N) (hN : N < 2 ^ F.prec)
    (hk : emin F - ((F.prec : Int) - 1) ≤ k) : rMag F ((N : ℚ) * (2 : ℚ) ^ k) = (N : ℚ) * (2 : ℚ) ^ k := by
  have hNq : (0 : ℚ) < N := by exact_mod_cast hN1
  have hapos : 0 < (N : ℚ) * (2 : ℚ) ^ k := mul_pos hNq (two_zpow_pos k)
  obtain ⟨hlo, hhi⟩ := ilog2_bracket_of_pos _ hapos
  have hlt : (N : ℚ) * (2 : ℚ) ^ k < (2 : ℚ) ^ ((F.prec : Int) + k) := by
    rw [zpow_add₀ (by norm_num), zpow_natCast]
    apply mul_lt_mul_of_pos_right _ (two_zpow_pos k)
    exact_mod_cast hN
  have he := lt_of_two_zpow_lt (lt_of_le_of_lt hlo hlt)
  -- `N < 2^prec` puts the quantum at or below `2^k`, so `a / quantum` is an integer, which `roundEven` leaves alone
  have hq : qexp F ((N : ℚ) * (2 : ℚ) ^ k) ≤ k := by rw [qexp_eq]; omega
  unfold rMag
  generalize qexp F ((N : ℚ) * (2 : ℚ) ^ k) = q0 at hq
  rw [div_zpow_int N k q0 hq, roundEven_int, ← div_zpow_int N k q0 hq]
  have h2 : (2 : ℚ) ^ q0 ≠ 0 := ne_of_gt (two_zpow_pos _)
  field_simp

theorem rMag_representable (F : Fmt) (hp : 1 ≤ F.prec) (a : ℚ) (ha : 0 < a) :
    ∃ (N : Nat) (k : Int), rMag F a = (N : ℚ) * (2 : ℚ) ^ k ∧ N < 2 ^ F.prec ∧ emin F - ((F.prec : Int) - 1) ≤ k := by
  obtain ⟨hlo, hhi⟩ := ilog2_bracket_of_pos a ha
  have hq := qexp_eq F a
  have hm0 : 0 ≤ a / (2 : ℚ) ^ qexp F a := le_of_lt (div_pos ha (two_zpow_pos _))
  have hmB : a / (2 : ℚ) ^ qexp F a < (((2 ^ F.prec : Nat) : Int) : ℚ) := by
    rw [div_lt_iff₀ (two_zpow_pos _)]
    have h1 : a < (2 : ℚ) ^ ((F.prec : Int) + qexp F a) :=
      lt_of_lt_of_le hhi (two_zpow_le_of_le (by omega))
    rw [zpow_add₀ (by norm_num), zpow_natCast] at h1
    push_cast
    exact h1
  obtain ⟨hr0, hrB⟩ := roundEven_bounds _ hm0 _ hmB
  unfold rMag
  generalize roundEven (a / (2 : ℚ) ^ qexp F a) = r at hr0 hrB
  obtain ⟨n, rfl⟩ := Int.eq_ofNat_of_zero_le hr0
  have hn : n ≤ 2 ^ F.prec := by exact_mod_cast hrB
  by_cases hlt : n < 2 ^ F.prec
  · exact ⟨n, qexp F a, by push_cast; ring, hlt, by omega⟩
  · -- rounded up to `2^prec`: the same value is `2^(prec-1)` in the next binade
    have hn2 : n = 2 ^ F.prec := by omega
    refine ⟨2 ^ (F.prec - 1), qexp F a + 1, ?_, Nat.pow_lt_pow_right (by norm_num) (by omega), by omega⟩
    subst hn2
    rw [zpow_add₀ (by norm_num)]
    have : (2 : ℕ) ^ F.prec = 2 ^ (F.prec - 1) * 2 := by
      rw [← pow_succ]; congr 1; omega
    rw [this]
    push_cast
    ring

/-- `v` is a finite value of format `F`: `±N·2^k` with `N < 2^prec`, on or above the subnormal
grid, below `2^(emax+1)`. -/
def Representable (F : Fmt) (v : ℚ) : Prop :=
  ∃ (N : Nat) (k : Int), |v| = (N : ℚ) * (2 : ℚ) ^ k ∧ N < 2 ^ F.prec ∧
    emin F - ((F.prec : Int) - 1) ≤ k ∧ |v| < (2 : ℚ) ^ ((F.emax : Int) + 1)

theorem rne_zero (F : Fmt) : rne F 0 = some 0 := by unfold rne; simp

theorem rne_of_representable (F : Fmt) (v : ℚ) (h : Representable F v) : rne F v = some v := by
  obtain ⟨N, k, hv, hN, hk, hlt⟩ := h
  by_cases hv0 : v = 0
  · subst hv0; exact rne_zero F
  · have hN1 : 1 ≤ N := by
      by_contra hc
      have : N = 0 := by omega
      subst this
      exact hv0 (by simpa using hv)
    rw [rne_of_ne_zero F v hv0, hv, rMag_of_representable F N k hN1 hN hk, ← hv, if_neg (not_le.2 hlt)]
    split
    · rw [abs_of_neg ‹_›, neg_neg]
    · rw [abs_of_nonneg (not_lt.1 ‹_›)]

theorem rne_representable (F : Fmt) (hp : 1 ≤ F.prec) (q v : ℚ) (h : rne F q = some v) : Representable F v := by
  by_cases hq : q = 0
  · subst hq
    rw [rne_zero] at h
    cases h
    exact ⟨0, emin F - ((F.prec : Int) - 1), by simp, by positivity, le_refl _, by simpa using two_zpow_pos _⟩
  · rw [rne_of_ne_zero F q hq] at h
    split at h
    · cases h
    · rename_i hno
      obtain ⟨N, k, hr, hN, hk⟩ := rMag_representable F hp _ (abs_pos.2 hq)
      have hnn : 0 ≤ rMag F |q| := by rw [hr]; exact mul_nonneg (by positivity) (le_of_lt (two_zpow_pos k))
      have hv : |v| = rMag F |q| := by
        cases h
        split
        · rw [abs_neg, abs_of_nonneg hnn]
        · rw [abs_of_nonneg hnn]
      exact ⟨N, k, hv.trans hr, hN, hk, hv ▸ lt_of_not_ge hno⟩

theorem representable_widen (v : ℚ) (h : Representable Fmt.single v) : Representable Fmt.double v := by
  obtain ⟨N, k, hv, hN, hk, hlt⟩ := h
  refine ⟨N, k, hv, ?_, ?_, ?_⟩
  · have : (2 : Nat) ^ Fmt.single.prec ≤ 2 ^ Fmt.double.prec := Nat.pow_le_pow_right (by norm_num) (by decide)
    omega
  · simp only [emin, Fmt.single, Fmt.double] at hk ⊢; omega
  · exact lt_of_lt_of_le hlt (two_zpow_le_of_le (by simp only [Fmt.single, Fmt.double]; omega))

/-- The driver's rounding satisfies both facts the floating clauses of C17 rest on. -/
theorem rne_roundingOK : RoundingOK rne :=
  ⟨fun F q v hp h => rne_of_representable F v (rne_representable F hp q v h),
   fun v h => rne_of_representable _ v (representable_widen v (rne_representable _ (by decide) v v h))⟩

/-- Why `idem` is stated for formats with at least one significand bit: with `prec = 0` the grid
collapses and a rounded result need not be a fixed point. -/
example : rne ⟨0, 3⟩ (3 / 2) = some 2 ∧ rne ⟨0, 3⟩ 2 = some 0 := by decide +kernel

end Au.Chrono
