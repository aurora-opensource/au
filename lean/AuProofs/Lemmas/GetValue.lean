/-
  `get_value_result`: for integral `T`, `checked_int_pow` and `product` in `Widen<T>` are exact or report ERR_CANNOT_FIT; for
  floating `T`, what a value returned by the long-double loops is, overflow guards aside.
-/
import AuModel.GetValue
import AuProofs.Lemmas.ApplyMag
import Mathlib.Algebra.Order.Ring.Int
import Mathlib.Data.Rat.Defs
namespace Au

theorem gt_tdiv_iff (M r b : Int) (hM : 0 ≤ M) (hr : 0 < r) : b > Int.tdiv M r ↔ r * b > M := by
  rw [gt_iff_lt, ← not_le, thr_pos M r b hr hM, not_le, Int.mul_comm]

/-- What a computation with overflow checks against `M` returns when its exact value is `X`.  Every loop below multiplies
factors `≥ 1`, so intermediate values only grow and a check that fails on the way would also fail at the end: each loop as a
whole is `fitOr M` of its exact value. -/
def fitOr (M X : Int) : Option Int := if X ≤ M then some X else none

theorem fitOr_eq_some {M X v : Int} : fitOr M X = some v ↔ (X ≤ M ∧ v = X) := by
  unfold fitOr
  split <;> simp_all [eq_comm]

theorem fitOr_of_le {M X : Int} (h : X ≤ M) : fitOr M X = some X := if_pos h

theorem fitOr_of_lt {M X Y : Int} (h : M < X) (hXY : X ≤ Y) : fitOr M Y = none := if_neg (by omega)

theorem cipLoop_eq (M : Int) (hM : 0 ≤ M) : ∀ (e : Nat) (r b : Int), 1 ≤ r → 1 ≤ b → r ≤ M →
    cipLoop M r b e = fitOr M (r * b ^ e) := by
  intro e
  induction e using Nat.strong_induction_on with
  | _ e ih =>
    intro r b hr hb hrM
    unfold cipLoop
    split
    · rename_i he
      rw [he, pow_zero, mul_one, fitOr_of_le hrM]
    · rename_i he
      -- with `r' = r·b^(e%2)` the result after the optional multiplication, `r·b^e = r'·(b·b)^(e/2)`: a product of factors
      -- `≥ 1`, so if `r'`, or `b·b` when it is still needed, exceeds `M`, so does the whole
      have hbb : 1 ≤ b * b := one_le_mul_of_one_le_of_one_le hb hb
      have hpow : 1 ≤ (b * b) ^ (e / 2) := one_le_pow₀ hbb
      have hid : r * b ^ e = r * b ^ (e % 2) * (b * b) ^ (e / 2) := by
        rw [mul_assoc, ← pow_two, ← pow_mul, ← pow_add]; congr 2; omega
      have step1 : (if e % 2 = 1 then (if b > Int.tdiv M r then none else some (r * b)) else some r)
          = fitOr M (r * b ^ (e % 2)) := by
        rcases Nat.mod_two_eq_zero_or_one e with h | h
        · simp [h, fitOr, hrM]
        · simp only [h, if_true, pow_one, gt_tdiv_iff M r b hM (by omega), fitOr]
          split <;> simp_all [not_le.2]
      have hr' : 1 ≤ r * b ^ (e % 2) := one_le_mul_of_one_le_of_one_le hr (one_le_pow₀ hb)
      rw [step1, hid]
      generalize r * b ^ (e % 2) = r' at hr' ⊢
      have hA : r' ≤ r' * (b * b) ^ (e / 2) := le_mul_of_one_le_right (by omega) hpow
      by_cases h1 : r' ≤ M
      · simp only [fitOr_of_le h1, gt_tdiv_iff M b b hM (by omega)]
        split
        · rename_i h2
          split
          · rename_i h0
            rw [h0, pow_zero, mul_one, fitOr_of_le h1]
          · exact (fitOr_of_lt h2 ((le_self_pow₀ hbb ‹_›).trans (le_mul_of_one_le_left (by omega) hr'))).symm
        · exact ih (e / 2) (by omega) r' (b * b) hr' hbb h1
      · rw [fitOr_of_lt (not_le.1 h1) hA, fitOr_of_lt (not_le.1 h1) le_rfl]

/-- `checked_int_pow` computes `result · base^exp` exactly, and fails exactly when that exceeds the
maximum of the type. -/
theorem cipLoop_spec (M : Int) (hM : 0 ≤ M) : ∀ (e : Nat) (r b : Int), 1 ≤ r → 1 ≤ b → r ≤ M →
    ∀ v, cipLoop M r b e = some v ↔ (r * b ^ e ≤ M ∧ v = r * b ^ e) :=
  fun e r b hr hb hrM _ => cipLoop_eq M hM e r b hr hb hrM ▸ fitOr_eq_some

theorem checkedIntPow_eq (M : Int) (hM : 1 ≤ M) (b : Int) (hb : 1 ≤ b) (e : Nat) : checkedIntPow M b e = fitOr M (b ^ e) := by
  rw [checkedIntPow, cipLoop_eq M (by omega) e 1 b le_rfl hb hM, one_mul]

theorem checkedIntPow_spec (M : Int) (hM : 1 ≤ M) (b : Int) (hb : 1 ≤ b) (e : Nat) (v : Int) :
    checkedIntPow M b e = some v ↔ (b ^ e ≤ M ∧ v = b ^ e) :=
  checkedIntPow_eq M hM b hb e ▸ fitOr_eq_some

def listProd : List Int → Int
  | [] => 1
  | x :: t => x * listProd t

theorem listProd_ge_one (xs : List Int) (h : ∀ x ∈ xs, 1 ≤ x) : 1 ≤ listProd xs := by
  induction xs with
  | nil => exact le_rfl
  | cons x t ih =>
    exact one_le_mul_of_one_le_of_one_le (h x (List.mem_cons_self ..)) (ih fun y hy => h y (List.mem_cons_of_mem _ hy))

theorem le_listProd_of_mem : ∀ (xs : List Int), (∀ x ∈ xs, 1 ≤ x) → ∀ y ∈ xs, y ≤ listProd xs
  | x :: t, h, y, hy => by
    have hx := h x (List.mem_cons_self ..)
    have ht := listProd_ge_one t fun z hz => h z (List.mem_cons_of_mem _ hz)
    rcases List.mem_cons.1 hy with rfl | hy
    · exact le_mul_of_one_le_right (by omega) ht
    · exact (le_listProd_of_mem t (fun z hz => h z (List.mem_cons_of_mem _ hz)) y hy).trans
        (le_mul_of_one_le_left (by omega) hx)

/-- One step of `product`: the guard (skipped for a factor 1, which cannot overflow) tests `acc·x > M`. -/
theorem productInt_cons (M : Int) (hM : 0 ≤ M) (x : Int) (xs : List Int) (acc : Int) (hx : 1 ≤ x) (haM : acc ≤ M) :
    productInt M (x :: xs) acc = (fitOr M (acc * x)).bind (productInt M xs) := by
  have hguard : (decide (x > 1) && decide (acc > Int.tdiv M x)) = decide (M < acc * x) := by
    by_cases h1 : x > 1
    · simp [h1, gt_tdiv_iff M x acc hM (by omega), Int.mul_comm x]
    · obtain rfl : x = 1 := by omega
      simp [not_lt.2 haM]
  rw [productInt, hguard, fitOr]
  by_cases h : M < acc * x <;> simp [h, not_le.2, not_lt.1]

theorem productInt_eq (M : Int) (hM : 0 ≤ M) : ∀ (xs : List Int) (acc : Int), (∀ x ∈ xs, 1 ≤ x) → 1 ≤ acc →
    acc ≤ M → productInt M xs acc = fitOr M (acc * listProd xs)
  | [], acc, _, _, haM => by rw [productInt, listProd, mul_one, fitOr_of_le haM]
  | x :: t, acc, hx, hacc, haM => by
    have hx1 := hx x (List.mem_cons_self ..)
    have ht : ∀ y ∈ t, 1 ≤ y := fun y hy => hx y (List.mem_cons_of_mem _ hy)
    have hax : 1 ≤ acc * x := one_le_mul_of_one_le_of_one_le hacc hx1
    rw [productInt_cons M hM x t acc hx1 haM, listProd, ← mul_assoc]
    by_cases h : acc * x ≤ M
    · rw [fitOr_of_le h]
      exact productInt_eq M hM t (acc * x) ht hax h
    · rw [fitOr_of_lt (not_le.1 h) le_rfl,
        fitOr_of_lt (not_le.1 h) (le_mul_of_one_le_right (by omega) (listProd_ge_one t ht))]
      rfl

theorem productInt_spec (M : Int) (hM : 0 ≤ M) : ∀ (xs : List Int) (acc : Int), (∀ x ∈ xs, 1 ≤ x) → 1 ≤ acc →
    acc ≤ M → ∀ v, productInt M xs acc = some v ↔ (acc * listProd xs ≤ M ∧ v = acc * listProd xs) :=
  fun xs acc hx hacc haM _ => productInt_eq M hM xs acc hx hacc haM ▸ fitOr_eq_some

/-- Exact power of one element of an integer magnitude. -/
def bpExact (a : MagBase × Rat) : Int :=
  match a.1 with
  | .prime p => (p : Int) ^ a.2.num.toNat
  | .pi => 1

/-- Exact value of an integer magnitude, ℤ-valued (its Chrono namesake is ℕ-valued); π and a negative exponent contribute 1, so
under `isIntegerMag` only (no hypothesis on the bases) does it agree with its siblings `intMagValue` (ℚ, `Lemmas/FltGetValue`)
and `Mag.qval` (`Lemmas/MagValue`). -/
def Mag.natValue (m : Mag) : Int := listProd (m.map bpExact)

theorem natValue_nil : Mag.natValue [] = 1 := rfl

theorem natValue_cons (a : MagBase × Rat) (s : Mag) : Mag.natValue (a :: s) = bpExact a * Mag.natValue s := rfl

/-- What `get_value_result<T>` computes for one base power (integral `T`). -/
def bpModel (t : IntTy) (a : MagBase × Rat) : Option Int :=
  match a.1 with
  | .prime p =>
    match widenBase t p with
    | some b => checkedIntPow (widenTy t).hi b a.2.num.toNat
    | none => none
  | .pi => none

/-- The model's per-element lambda is `bpModel t`. -/
theorem getValueResultInt_unfold (t : IntTy) (m : Mag) :
    getValueResultInt t m =
      if m = [] then (.ok, 1) else
      if !(Mag.isIntegerMag m) then (.errNonInteger, 0) else
      if (m.map (bpModel t)).any (·.isNone) then (.errCannotFit, 0) else
      match productInt (widenTy t).hi ((m.map (bpModel t)).filterMap id) 1 with
      | none => (.errCannotFit, 0)
      | some v => if t.inRange v then (.ok, t.wrap v) else (.errCannotFit, 0) := rfl

theorem widen_hi : ∀ t ∈ IntTy.all, 1 ≤ (widenTy t).hi ∧ t.hi ≤ (widenTy t).hi := by decide

/-- Prime base `p ≥ 1`, numerator of the exponent `≥ 1`: exactly what `bpExact` / `bpModel` read. -/
def IntElem (a : MagBase × Rat) : Prop := ∃ p : Nat, a.1 = .prime p ∧ 1 ≤ p ∧ 1 ≤ a.2.num.toNat

theorem bpExact_ge_one (a : MagBase × Rat) (h : IntElem a) : 1 ≤ bpExact a := by
  obtain ⟨p, hp, hp1, _⟩ := h
  unfold bpExact; rw [hp]
  exact one_le_pow₀ (by exact_mod_cast hp1)

theorem bpModel_eq (t : IntTy) (ht : t ∈ IntTy.all) (a : MagBase × Rat) (h : IntElem a) :
    bpModel t a = fitOr (widenTy t).hi (bpExact a) := by
  obtain ⟨p, hp, hp1, hk⟩ := h
  have hW := widen_hi t ht
  have hp1' : (1 : Int) ≤ p := by exact_mod_cast hp1
  unfold bpModel bpExact widenBase
  rw [hp]
  show (match (if (p : Int) ≤ (widenTy t).hi then some (p : Int) else none) with
    | some b => checkedIntPow (widenTy t).hi b a.2.num.toNat | none => none) = _
  by_cases hfit : (p : Int) ≤ (widenTy t).hi
  · rw [if_pos hfit]
    exact checkedIntPow_eq _ hW.1 p hp1' _
  · -- the base itself does not fit, and its power is at least as large
    rw [if_neg hfit]
    exact (fitOr_of_lt (not_le.1 hfit) (le_self_pow₀ hp1' (by omega))).symm

theorem bpModel_spec (t : IntTy) (ht : t ∈ IntTy.all) (a : MagBase × Rat) (h : IntElem a) (v : Int) :
    bpModel t a = some v ↔ (bpExact a ≤ (widenTy t).hi ∧ v = bpExact a) :=
  bpModel_eq t ht a h ▸ fitOr_eq_some

theorem one_le_iff_of_den_one {e : Rat} (hd : e.den = 1) : 1 ≤ e ↔ 1 ≤ e.num := by
  conv_lhs => rw [← Rat.coe_int_num_of_den_eq_one hd]
  exact_mod_cast Iff.rfl

theorem one_le_num_toNat (e : Rat) (hd : e.den = 1) (h1 : 1 ≤ e) : 1 ≤ e.num.toNat := by
  have := (one_le_iff_of_den_one hd).1 h1
  omega

theorem isIntegerMag_iff {m : Mag} :
    Mag.isIntegerMag m = true ↔ ∀ a ∈ m, (∃ p, a.1 = .prime p) ∧ a.2.den = 1 ∧ 1 ≤ a.2 := by
  unfold Mag.isIntegerMag
  rw [List.all_eq_true]
  refine forall₂_congr fun a _ => ?_
  cases a.1 <;> simp

theorem Mag.isIntegerMag_cons {a : MagBase × Rat} {s : Mag} :
    Mag.isIntegerMag (a :: s) = true ↔ ((∃ p, a.1 = .prime p) ∧ a.2.den = 1 ∧ 1 ≤ a.2) ∧ Mag.isIntegerMag s = true := by
  rw [isIntegerMag_iff, isIntegerMag_iff, List.forall_mem_cons]

theorem intElem_of_isInteger (m : Mag) (hpos : ∀ a ∈ m, ∀ p, a.1 = .prime p → 1 ≤ p)
    (hi : Mag.isIntegerMag m = true) : ∀ a ∈ m, IntElem a := by
  intro a ha
  obtain ⟨⟨p, hb⟩, hd, h1⟩ := isIntegerMag_iff.1 hi a ha
  exact ⟨p, hb, hpos a ha p hb, one_le_num_toNat a.2 hd h1⟩

theorem bpExact_map_ge_one (m : Mag) (h : ∀ a ∈ m, IntElem a) : ∀ x ∈ m.map bpExact, 1 ≤ x := fun x hx => by
  rcases List.mem_map.1 hx with ⟨a, ha, rfl⟩
  exact bpExact_ge_one a (h a ha)

theorem natValue_ge_one (m : Mag) (h : ∀ a ∈ m, IntElem a) : 1 ≤ Mag.natValue m :=
  listProd_ge_one _ (bpExact_map_ge_one m h)

/-- The arithmetic in `Widen<T>`, base powers first and then their product: a base power that does not fit is reported, and
otherwise the product is the checked product of the exact powers. -/
theorem bpModel_product_eq (t : IntTy) (ht : t ∈ IntTy.all) (m : Mag) (helem : ∀ a ∈ m, IntElem a) :
    (if (m.map (bpModel t)).any (·.isNone) then none
      else productInt (widenTy t).hi ((m.map (bpModel t)).filterMap id) 1) = fitOr (widenTy t).hi (Mag.natValue m) := by
  have hW := widen_hi t ht
  have h1 := bpExact_map_ge_one m helem
  unfold Mag.natValue
  by_cases hall : ∀ a ∈ m, bpExact a ≤ (widenTy t).hi
  · -- every base power fits: the list handed to `product` is that of the exact powers
    have hmap : m.map (bpModel t) = (m.map bpExact).map some := by
      rw [List.map_map]
      exact List.map_congr_left fun a ha => by rw [bpModel_eq t ht a (helem a ha), fitOr_of_le (hall a ha)]; rfl
    rw [hmap, ← one_mul (listProd _), ← productInt_eq _ (by omega) (m.map bpExact) 1 h1 le_rfl hW.1]
    simp
  · -- one base power does not fit; the exact value is at least as large
    obtain ⟨a, ha, hlt⟩ : ∃ a ∈ m, (widenTy t).hi < bpExact a := by simpa using hall
    have hnone : bpModel t a = none := by rw [bpModel_eq t ht a (helem a ha), fitOr_of_lt hlt le_rfl]
    rw [if_pos (List.any_eq_true.2 ⟨_, List.mem_map.2 ⟨a, ha, hnone⟩, rfl⟩),
      fitOr_of_lt hlt (le_listProd_of_mem _ h1 _ (List.mem_map.2 ⟨a, ha, rfl⟩))]

/-- **`get_value_result<T>` in closed form** (integral `T`): the outcome says whether the magnitude is an integer and whether
its exact value fits `T`; the value is the exact one. -/
theorem getValueResultInt_closed (t : IntTy) (ht : t ∈ IntTy.all) (m : Mag)
    (hpos : ∀ a ∈ m, ∀ p, a.1 = .prime p → 1 ≤ p) :
    getValueResultInt t m =
      if Mag.isIntegerMag m = true then
        (if Mag.natValue m ≤ t.hi then (.ok, Mag.natValue m) else (.errCannotFit, 0))
      else (.errNonInteger, 0) := by
  have hW := widen_hi t ht
  have hlo := lo_nonpos t ht
  rw [getValueResultInt_unfold]
  by_cases hnil : m = []
  · subst hnil
    have := hi_pos t ht
    simp [Mag.isIntegerMag, natValue_nil, show (1 : Int) ≤ t.hi by omega]
  · cases hint : Mag.isIntegerMag m with
    | false => simp [hnil]
    | true =>
      have helem := intElem_of_isInteger m hpos hint
      have hk1 := natValue_ge_one m helem
      simp only [hnil, if_false, Bool.not_true, Bool.false_eq_true, if_true]
      -- the model's two ERR_CANNOT_FIT exits are the `none` of `bpModel_product_eq`
      have hshape : ∀ (c : Bool) (P : Option Int) (E : MagOutcome × Int) (F : Int → MagOutcome × Int),
          (if c = true then E else match P with | none => E | some v => F v) =
            match (if c = true then none else P) with | none => E | some v => F v := by
        intro c P E F; cases c <;> rfl
      rw [hshape, bpModel_product_eq t ht m helem]
      by_cases hfit : Mag.natValue m ≤ (widenTy t).hi
      · -- both stages succeed with the exact value; what is left is the range test of `T`
        rw [fitOr_of_le hfit]
        by_cases hr : Mag.natValue m ≤ t.hi
        · simp only [if_pos (show t.inRange _ from ⟨by omega, hr⟩), wrap_of_inRange t ht _ ⟨by omega, hr⟩, if_pos hr]
        · simp only [if_neg (fun h : t.inRange _ => hr h.2), if_neg hr]
      · rw [fitOr_of_lt (not_le.1 hfit) le_rfl, if_neg (by omega : ¬ Mag.natValue m ≤ t.hi)]

/-- Induction along `checked_int_pow<long double>`.  The guards only ever turn a result into `none`, so a value the loop
returns is the one plain square-and-multiply computes; a property of that value is proved by following these three steps. -/
theorem cipLoopF_induct {motive : Flt → Flt → Nat → Flt → Prop}
    (zero : ∀ r b, motive r b 0 r)
    (odd : ∀ r b q v, motive (Flt.mul ld r b) (Flt.mul ld b b) q v → motive r b (2 * q + 1) v)
    (even : ∀ r b q v, motive r (Flt.mul ld b b) q v → motive r b (2 * q) v) :
    ∀ e r b v, cipLoopF r b e = some v → motive r b e v := by
  intro e r b v
  -- one iteration, seen from the state it leaves: the optional multiplication succeeded
  have step : ∀ {r b e r'}, (if e % 2 = 1 then (if Flt.gt b (Flt.div ld ldMax r) then none else some (Flt.mul ld r b))
      else some r) = some r' → motive r' (Flt.mul ld b b) (e / 2) v → motive r b e v := by
    intro r b e r' h m
    split at h
    · split at h
      · cases h
      · cases h
        have := odd r b (e / 2) v m
        rwa [show 2 * (e / 2) + 1 = e by omega] at this
    · cases h
      have := even r b (e / 2) v m
      rwa [show 2 * (e / 2) = e by omega] at this
  fun_induction cipLoopF r b e with
  | case1 r b => intro h; cases h; exact zero _ _
  | case2 => nofun  -- the multiplication guard fired
  | case3 r b e _ r? r' hr exp' _ h0 =>
    intro h; cases h
    exact step hr (by rw [show e / 2 = 0 from h0]; exact zero _ _)
  | case4 => nofun  -- the squaring guard fired with exponent left
  | case5 r b e _ r? r' hr exp' _ ih => exact fun h => step hr (ih h)

theorem productF_cons_some {x : Flt} {l : List Flt} {acc v : Flt} (h : productF (x :: l) acc = some v) :
    productF l (Flt.mul ld acc x) = some v := by
  unfold productF at h
  split at h
  · cases h
  · exact h

/-- For a positive integer exponent `base_power_value` is `checked_int_pow` alone (no root, no reciprocal). -/
theorem basePowerValueF_of_int (b : Flt) (e : Rat) (hden : e.den = 1) (h1 : 1 ≤ e) :
    basePowerValueF b e.num e.den = checkedIntPowF b e.num.natAbs := by
  have := one_le_num_toNat e hden h1
  unfold basePowerValueF
  simp only [hden, Nat.lt_irrefl, if_false, show ¬ e.num < 0 by omega]
  cases checkedIntPowF b e.num.natAbs <;> rfl

/-- The base power `get_value_result<floating>` computes for one element of a magnitude. -/
def magPowerF (a : MagBase × Rat) : Option Flt :=
  basePowerValueF (match a.1 with | .prime p => Flt.ofInt ld (IntTy.u64.wrap p) | .pi => piLD) a.2.num a.2.den

theorem getValueResultFlt_of_ok {f : FltTy} {m : Mag} {v : Flt} (hne : m ≠ []) (h : getValueResultFlt f m = (.ok, v)) :
    ∃ w, (m.map magPowerF).any (·.isNone) = false ∧ productF ((m.map magPowerF).filterMap id) (Flt.fin 1) = some w ∧
      (Flt.le (Flt.lowestOf f) w && Flt.ge (Flt.maxOf f) w) = true ∧ Flt.eq v (Flt.fin 0) = false ∧ v = Flt.cast f w := by
  unfold getValueResultFlt at h
  simp only [hne, if_false] at h
  split at h
  · cases h
  · rename_i hany
    split at h
    · cases h
    · rename_i w hw
      split at h
      · rename_i hrange
        split at h
        · cases h
        · rename_i hz
          cases h
          exact ⟨w, Bool.eq_false_iff.2 hany, hw, hrange, Bool.eq_false_iff.2 hz, rfl⟩
      · cases h

end Au
