import AuModel.Mag
import AuProofs.Lemmas.Pack
import AuProofs.Lemmas.Mag
import Mathlib.Tactic.Ring
import Mathlib.Tactic.Linarith
import Mathlib.Algebra.Order.Field.Basic
import Mathlib.Data.Rat.Defs

namespace Au
open Pack

def MagBase.qv (piv : Rat) : MagBase → Rat
  | .prime p => (p : Rat)
  | .pi => piv

/-- Value of one entry, `b ^ e`. -/
def bval (piv : Rat) (a : MagBase × Rat) : Rat := (MagBase.qv piv a.1) ^ a.2.num

/-- Exact value of a magnitude all of whose exponents are integers (an exponent is read through its numerator;
π is the parameter `piv`). -/
def Mag.qval (piv : Rat) (m : Mag) : Rat := (m.map (bval piv)).prod

def Mag.IntExp (m : Mag) : Prop := ∀ a ∈ m, a.2.den = 1
def Mag.PosBases (m : Mag) : Prop := ∀ a ∈ m, ∀ p, a.1 = .prime p → 0 < p
def Mag.PiFree (m : Mag) : Prop := ∀ a ∈ m, a.1 ≠ .pi

structure Mag.Rational (m : Mag) : Prop where
  valid : Valid MagBase.lt m
  int : Mag.IntExp m
  pos : Mag.PosBases m
  free : Mag.PiFree m

theorem qv_pos (piv : Rat) (hpi : 0 < piv) (b : MagBase) (hb : ∀ p, b = .prime p → 0 < p) : 0 < MagBase.qv piv b := by
  cases b with
  | prime p => simp only [MagBase.qv]; exact_mod_cast hb p rfl
  | pi => exact hpi

theorem Mag.qval_nil (piv : Rat) : Mag.qval piv [] = 1 := rfl
theorem Mag.qval_cons (piv : Rat) (a : MagBase × Rat) (t : Mag) : Mag.qval piv (a :: t) = bval piv a * Mag.qval piv t := by
  simp [Mag.qval]

theorem intExp_tail {a : MagBase × Rat} {t : Mag} (h : Mag.IntExp (a :: t)) : Mag.IntExp t :=
  (List.forall_mem_cons.1 h).2
theorem posBases_tail {a : MagBase × Rat} {t : Mag} (h : Mag.PosBases (a :: t)) : Mag.PosBases t :=
  (List.forall_mem_cons.1 h).2

theorem num_add_of_den_one (e1 e2 : Rat) (h1 : e1.den = 1) (h2 : e2.den = 1) :
    (e1 + e2).den = 1 ∧ (e1 + e2).num = e1.num + e2.num := by
  have : e1 + e2 = ((e1.num + e2.num : Int) : Rat) := by
    rw [Int.cast_add, Rat.coe_int_num_of_den_eq_one h1, Rat.coe_int_num_of_den_eq_one h2]
  rw [this]
  exact ⟨Rat.den_intCast _, Rat.num_intCast _⟩

theorem num_mul_int_of_den_one (e : Rat) (k : Int) (h : e.den = 1) :
    (e * k).den = 1 ∧ (e * k).num = e.num * k := by
  have : e * k = ((e.num * k : Int) : Rat) := by rw [Int.cast_mul, Rat.coe_int_num_of_den_eq_one h]
  rw [this]
  exact ⟨Rat.den_intCast _, Rat.num_intCast _⟩

theorem intExp_mul {a b : Mag} (ha : Mag.IntExp a) (hb : Mag.IntExp b) : Mag.IntExp (mul MagBase.lt a b) :=
  forall_mem_mul MagBase.lt_strictTotal (P := fun y => y.2.den = 1)
    (fun _ e1 e2 h1 h2 _ => (num_add_of_den_one e1 e2 h1 h2).1) ha hb

theorem posBases_mul {a b : Mag} (ha : Mag.PosBases a) (hb : Mag.PosBases b) : Mag.PosBases (mul MagBase.lt a b) :=
  forall_base_mul MagBase.lt_strictTotal (fun c => ∀ p, c = .prime p → 0 < p) ha hb

theorem piFree_mul {a b : Mag} (ha : Mag.PiFree a) (hb : Mag.PiFree b) : Mag.PiFree (mul MagBase.lt a b) :=
  forall_base_mul MagBase.lt_strictTotal (· ≠ .pi) ha hb

theorem intExp_pow {m : Mag} (hm : Mag.IntExp m) (k : Int) : Mag.IntExp (Pack.pow m k) := by
  intro y hy
  obtain ⟨_, z, hz, rfl⟩ := mem_pow hy
  exact (num_mul_int_of_den_one z.2 k (hm z hz)).1

theorem posBases_pow {m : Mag} (hm : Mag.PosBases m) (q : Rat) : Mag.PosBases (Pack.pow m q) :=
  forall_base_pow (fun c => ∀ p, c = MagBase.prime p → 0 < p) hm q

theorem piFree_pow {m : Mag} (hm : Mag.PiFree m) (q : Rat) : Mag.PiFree (Pack.pow m q) :=
  forall_base_pow (· ≠ MagBase.pi) hm q

theorem bval_add (piv : Rat) (b : MagBase) (e1 e2 : Rat) (hq : MagBase.qv piv b ≠ 0) (h1 : e1.den = 1)
    (h2 : e2.den = 1) : bval piv (b, e1 + e2) = bval piv (b, e1) * bval piv (b, e2) := by
  simp only [bval]
  rw [(num_add_of_den_one e1 e2 h1 h2).2, zpow_add₀ hq]

theorem qval_mul_eq (piv : Rat) (hpi : 0 < piv) (a b : Mag) (ha : Mag.IntExp a) (hb : Mag.IntExp b)
    (pa : Mag.PosBases a) (pb : Mag.PosBases b) :
    Mag.qval piv (mul MagBase.lt a b) = Mag.qval piv a * Mag.qval piv b := by
  fun_induction mul MagBase.lt a b with
  | case1 b => rw [Mag.qval_nil, one_mul]
  | case2 a _ => rw [Mag.qval_nil, mul_one]
  | case3 b1 e1 t1 b2 e2 t2 _ ih =>
    rw [Mag.qval_cons, Mag.qval_cons, ih (intExp_tail ha) hb (posBases_tail pa) pb, _root_.mul_assoc]
  | case4 b1 e1 t1 b2 e2 t2 _ _ ih =>
    rw [Mag.qval_cons, Mag.qval_cons piv (b2, e2), ih (intExp_tail hb) ha (posBases_tail pb) pa]; ring
  | case5 b1 e1 t1 b2 e2 t2 h1 h2 hz ih =>
    obtain rfl := MagBase.lt_strictTotal.eq_of_not_lt h1 h2
    have : bval piv (b1, e1) * bval piv (b1, e2) = 1 := by
      rw [← bval_add piv b1 e1 e2 (qv_pos piv hpi b1 (pa _ (List.mem_cons_self ..))).ne'
        (ha _ (List.mem_cons_self ..)) (hb _ (List.mem_cons_self ..)), hz]
      simp [bval]
    rw [Mag.qval_cons, Mag.qval_cons, mul_mul_mul_comm, this, one_mul]
    exact ih (intExp_tail ha) (intExp_tail hb) (posBases_tail pa) (posBases_tail pb)
  | case6 b1 e1 t1 b2 e2 t2 h1 h2 _ ih =>
    obtain rfl := MagBase.lt_strictTotal.eq_of_not_lt h1 h2
    rw [Mag.qval_cons, Mag.qval_cons, Mag.qval_cons, ih (intExp_tail hb) (intExp_tail ha) (posBases_tail pb) (posBases_tail pa),
      bval_add piv b1 e1 e2 (qv_pos piv hpi b1 (pa _ (List.mem_cons_self ..))).ne'
        (ha _ (List.mem_cons_self ..)) (hb _ (List.mem_cons_self ..))]
    ring

/-- `PackProduct` multiplies values (integer exponents, positive bases). -/
theorem qval_mul (piv : Rat) (hpi : 0 < piv) (a b : Mag) (ha : Mag.IntExp a) (hb : Mag.IntExp b)
    (pa : Mag.PosBases a) (pb : Mag.PosBases b) :
    Mag.qval piv (mul MagBase.lt a b) = Mag.qval piv a * Mag.qval piv b ∧ Mag.IntExp (mul MagBase.lt a b)
      ∧ Mag.PosBases (mul MagBase.lt a b) :=
  ⟨qval_mul_eq piv hpi a b ha hb pa pb, intExp_mul ha hb, posBases_mul pa pb⟩

theorem qval_pow_eq (piv : Rat) (m : Mag) (k : Int) (hi : Mag.IntExp m) :
    Mag.qval piv (Pack.pow m (k : Rat)) = (Mag.qval piv m) ^ k := by
  unfold Pack.pow
  split
  next hk =>
    rw [Int.cast_eq_zero.1 hk, zpow_zero, Mag.qval_nil]
  · induction m with
    | nil => simp [Mag.qval_nil]
    | cons a t ih =>
      rw [List.map_cons, Mag.qval_cons, Mag.qval_cons, ih (intExp_tail hi), mul_zpow]
      simp only [bval]
      rw [(num_mul_int_of_den_one a.2 k (hi a (List.mem_cons_self ..))).2, zpow_mul]

set_option linter.unusedVariables false in
/-- `PackPower` by an integer raises the value to that power. -/
theorem qval_pow_int (piv : Rat) (hpi : 0 < piv) (m : Mag) (k : Int) (hi : Mag.IntExp m) (hp : Mag.PosBases m) :
    Mag.qval piv (Pack.pow m (k : Rat)) = (Mag.qval piv m) ^ k ∧ Mag.IntExp (Pack.pow m (k : Rat)) ∧
      Mag.PosBases (Pack.pow m (k : Rat)) :=
  ⟨qval_pow_eq piv m k hi, intExp_pow hi k, posBases_pow hp k⟩

/-- `PackInverseT` inverts the value. -/
theorem qval_inv (piv : Rat) : ∀ (m : Mag), Mag.IntExp m → Mag.PosBases m →
    Mag.qval piv (Pack.inv m) = (Mag.qval piv m)⁻¹ ∧ Mag.IntExp (Pack.inv m) ∧ Mag.PosBases (Pack.inv m) := by
  intro m hi hp
  have h1 : (-1 : Rat) = ((-1 : Int) : Rat) := by norm_num
  rw [Pack.inv, h1, ← zpow_neg_one]
  exact ⟨qval_pow_eq piv m (-1) hi, intExp_pow hi (-1), posBases_pow hp _⟩

theorem qval_pos (piv : Rat) (hpi : 0 < piv) : ∀ (m : Mag), Mag.PosBases m → 0 < Mag.qval piv m
  | [], _ => by simp [Mag.qval_nil]
  | a :: t, h => by
    rw [Mag.qval_cons]
    exact mul_pos (zpow_pos (qv_pos piv hpi a.1 (h a (List.mem_cons_self ..))) _) (qval_pos piv hpi t (posBases_tail h))

/-! The form to build on is the `rational_*` bundle below (closure of `Mag.Rational` together with the
value).  `qval_mul`, `qval_pow_int` and `qval_inv` above are the same facts with the structure
unpacked; both forms rest on `qval_mul_eq` and `qval_pow_eq`. -/

theorem rational_mul (piv : Rat) (hpi : 0 < piv) (a b : Mag) (ha : Mag.Rational a) (hb : Mag.Rational b) :
    Mag.Rational (mul MagBase.lt a b) ∧ Mag.qval piv (mul MagBase.lt a b) = Mag.qval piv a * Mag.qval piv b :=
  ⟨⟨mul_valid MagBase.lt_strictTotal a b ha.valid hb.valid, intExp_mul ha.int hb.int, posBases_mul ha.pos hb.pos,
      piFree_mul ha.free hb.free⟩, qval_mul_eq piv hpi a b ha.int hb.int ha.pos hb.pos⟩

theorem rational_pow_int (piv : Rat) (a : Mag) (k : Int) (ha : Mag.Rational a) :
    Mag.Rational (Pack.pow a (k : Rat)) ∧ Mag.qval piv (Pack.pow a (k : Rat)) = (Mag.qval piv a) ^ k :=
  ⟨⟨pow_valid a _ ha.valid, intExp_pow ha.int k, posBases_pow ha.pos _, piFree_pow ha.free _⟩,
    qval_pow_eq piv a k ha.int⟩

theorem rational_inv (piv : Rat) (a : Mag) (ha : Mag.Rational a) :
    Mag.Rational (Pack.inv a) ∧ Mag.qval piv (Pack.inv a) = (Mag.qval piv a)⁻¹ :=
  have ⟨v, i, p⟩ := qval_inv piv a ha.int ha.pos
  ⟨⟨pow_valid a _ ha.valid, i, p, piFree_pow ha.free _⟩, v⟩

theorem rational_div (piv : Rat) (hpi : 0 < piv) (m c : Mag) (hm : Mag.Rational m) (hc : Mag.Rational c) :
    Mag.Rational (Mag.div m c) ∧ Mag.qval piv (Mag.div m c) = Mag.qval piv m * (Mag.qval piv c)⁻¹ := by
  obtain ⟨ri, vi⟩ := rational_inv piv c hc
  obtain ⟨rq, vq⟩ := rational_mul piv hpi m _ hm ri
  exact ⟨rq, vq.trans (by rw [vi])⟩

theorem Mag.commonAll_rational (ms : List Mag) (h : ∀ m ∈ ms, Mag.Rational m) : Mag.Rational (Mag.commonAll ms) where
  valid := Mag.commonAll_valid ms (fun m hm => (h m hm).valid)
  int := Mag.forall_mem_commonAll fun m hm => (h m hm).int
  pos := Mag.forall_mem_commonAll fun m hm => (h m hm).pos
  free := Mag.forall_mem_commonAll fun m hm => (h m hm).free

end Au
