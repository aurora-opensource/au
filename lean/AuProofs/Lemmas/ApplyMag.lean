/-
  AuProofs.Lemmas.ApplyMag — `apply_magnitude` on an integral rep (`AuModel.ApplyMag`): what the overflow
  thresholds and the truncation checker decide, and when the evaluation itself is clean.
-/
import AuModel.ApplyMag
import AuProofs.Lemmas.IntTy
namespace Au
open IntTy

-- the predicate of C04's `ExactFits`, flattened
def exactFits (t : IntTy) (N D : Nat) (x : Int) : Prop :=
  t.lo * D ≤ x * N ∧ x * N ≤ t.hi * D ∧ t.promote.inRange (x * N)

theorem gvInt_isSome (t : IntTy) (n : Nat) : (gvInt t n).isSome = true ↔ (n : Int) ≤ t.hi := by
  unfold gvInt; split <;> simp [*]

theorem gvInt_of_le (t : IntTy) (n : Nat) (h : (n : Int) ≤ t.hi) : gvInt t n = some (n : Int) := by
  unfold gvInt; simp [h]

theorem gvInt_of_gt (t : IntTy) (n : Nat) (h : ¬ (n : Int) ≤ t.hi) : gvInt t n = none := by
  unfold gvInt; simp [h]

theorem categorize_one (N : Nat) : categorize N 1 = .intMul := by simp [categorize]

theorem cat_intMul {N D : Nat} (h : categorize N D = .intMul) : D = 1 := by
  unfold categorize at h; split at h
  · assumption
  · split at h <;> cases h

theorem cat_intDiv {N D : Nat} (h : categorize N D = .intDiv) : N = 1 ∧ D ≠ 1 := by
  unfold categorize at h; split at h
  · cases h
  · split at h
    · exact ⟨‹_›, ‹_›⟩
    · cases h

theorem cat_rational {N D : Nat} (h : categorize N D = .rational) : N ≠ 1 ∧ D ≠ 1 := by
  unfold categorize at h; split at h
  · cases h
  · split at h
    · cases h
    · exact ⟨‹_›, ‹_›⟩

theorem compiles_rational (t : IntTy) (N D : Nat) (h : categorize N D = .rational)
    (hc : compiles t N D = true) : (N : Int) ≤ t.promote.hi ∧ (D : Int) ≤ t.promote.hi := by
  unfold compiles at hc
  rw [h] at hc
  simp only [Bool.and_eq_true] at hc
  exact ⟨(gvInt_isSome _ _).1 hc.1, (gvInt_isSome _ _).1 hc.2⟩

theorem wouldProductOverflow_iff (t : IntTy) (ht : t ∈ IntTy.all) (N : Nat) (hN : 0 < N) (hc : (N : Int) ≤ t.hi) (x : Int) :
    wouldProductOverflow t x (gvInt t N) = true ↔ ¬ (t.lo ≤ x * N ∧ x * N ≤ t.hi) := by
  rw [gvInt_of_le t N hc]
  simp only [wouldProductOverflow]
  have h1 := thr_pos t.hi N x (by omega) (hi_nonneg t ht)
  have h2 := thr_neg t.lo N x (by omega) (lo_nonpos t ht)
  simp only [Bool.or_eq_true, decide_eq_true_eq]
  omega

theorem le_clampTo_tdiv (t : IntTy) (ht : t ∈ IntTy.all) (L N x : Int) (hN : 0 < N) (hL : 0 ≤ L) (hx : t.inRange x) :
    x ≤ clampTo t (Int.tdiv L N) ↔ x * N ≤ L := by
  have h0 := Int.tdiv_nonneg hL (Int.le_of_lt hN)
  have hlo := lo_nonpos t ht
  rw [← thr_pos L N x hN hL]
  unfold clampTo inRange at *
  split
  · omega
  · split <;> omega

theorem clampTo_tdiv_le (t : IntTy) (ht : t ∈ IntTy.all) (L N x : Int) (hN : 0 < N) (hL : L ≤ 0) (hx : t.inRange x) :
    clampTo t (Int.tdiv L N) ≤ x ↔ L ≤ x * N := by
  have h0 : Int.tdiv L N ≤ 0 := (thr_neg L N 0 hN hL).2 (by omega)
  have hhi := hi_nonneg t ht
  rw [← thr_neg L N x hN hL]
  unfold clampTo inRange at *
  split
  · omega
  · split <;> omega

theorem lt_of_lessThanOne (N D : Nat) (hd : (D : Int) ≤ u64.hi) (hlt : lessThanOne N D = true) : (N : Int) < D := by
  unfold lessThanOne at hlt
  rw [gvInt_of_le u64 D hd] at hlt
  simpa using hlt

theorem promote_hi_le_u64 : ∀ t ∈ IntTy.all, t.promote.hi ≤ u64.hi := by decide

/-- `MaxNonOverflowingValue` is the largest `x` whose product by `N` fits both the promoted type and `hi·D`:
its limit is `min(promoted max, hi·D)`, computed without overflowing. -/
theorem le_maxNonOverflowing_iff (t : IntTy) (ht : t ∈ IntTy.all) (N D : Nat) (hN : 0 < N)
    (hn : (N : Int) ≤ t.promote.hi) (hd : (D : Int) ≤ t.promote.hi) (x : Int) (hx : t.inRange x) :
    x ≤ maxNonOverflowing t N D ↔ (x * N ≤ t.promote.hi ∧ x * N ≤ t.hi * D) := by
  have hphi := hi_nonneg _ (promote_mem t ht)
  have hthi := hi_pos t ht
  have hN' : (0 : Int) < N := by omega
  have hnn : 0 ≤ t.hi * D := Int.mul_nonneg (by omega) (by omega)
  unfold maxNonOverflowing
  simp only [gvInt_of_le _ N hn, gvInt_of_le _ D hd]
  split
  · -- N < D: the product stays below `hi·D` for every `x` of `T`
    next hlt =>
    have hND := lt_of_lessThanOne N D (Int.le_trans hd (promote_hi_le_u64 t ht)) hlt
    rw [le_clampTo_tdiv t ht _ _ x hN' hphi hx]
    have : x * N ≤ t.hi * D := by
      by_cases hx0 : 0 ≤ x
      · exact Int.mul_le_mul hx.2 (by omega) (by omega) (by omega)
      · exact Int.le_trans (Int.mul_nonpos_of_nonpos_of_nonneg (by omega) (by omega)) hnn
    omega
  · have key := thr_pos t.promote.hi t.hi D hthi hphi
    rw [Int.mul_comm] at key
    split
    · rw [le_clampTo_tdiv t ht _ _ x hN' hphi hx]; omega
    · rw [le_clampTo_tdiv t ht _ _ x hN' hnn hx]; omega

theorem minNonOverflowing_le_iff (t : IntTy) (ht : t ∈ IntTy.all) (hs : t.signed = true) (N D : Nat) (hN : 0 < N)
    (hn : (N : Int) ≤ t.promote.hi) (hd : (D : Int) ≤ t.promote.hi) (x : Int) (hx : t.inRange x) :
    minNonOverflowing t N D ≤ x ↔ (t.promote.lo ≤ x * N ∧ t.lo * D ≤ x * N) := by
  have hplo := lo_nonpos _ (promote_mem t ht)
  have hlo := signed_lo_neg t ht hs
  have hN' : (0 : Int) < N := by omega
  have hnn : t.lo * D ≤ 0 := Int.mul_nonpos_of_nonpos_of_nonneg (by omega) (by omega)
  unfold minNonOverflowing
  simp only [gvInt_of_le _ N hn, gvInt_of_le _ D hd]
  split
  · next hlt =>
    have hND := lt_of_lessThanOne N D (Int.le_trans hd (promote_hi_le_u64 t ht)) hlt
    rw [clampTo_tdiv_le t ht _ _ x hN' hplo hx]
    have : t.lo * D ≤ x * N := by
      by_cases hx0 : x ≤ 0
      · have : -x * N ≤ -t.lo * D := Int.mul_le_mul (by have := hx.1; omega) (by omega) (by omega) (by omega)
        rw [Int.neg_mul, Int.neg_mul] at this
        omega
      · exact Int.le_trans hnn (Int.mul_nonneg (by omega) (by omega))
    omega
  · -- both `promoted min` and `lo` are negative: their truncated quotient is that of the absolute values
    have key := thr_pos (-t.promote.lo) (-t.lo) D (by omega) (by omega)
    rw [Int.neg_tdiv, Int.tdiv_neg, Int.neg_neg, Int.mul_neg, Int.mul_comm] at key
    split
    · rw [clampTo_tdiv_le t ht _ _ x hN' hplo hx]; omega
    · rw [clampTo_tdiv_le t ht _ _ x hN' hnn hx]; omega

theorem dvd_mul_coprime (D N : Nat) (x : Int) (hc : Nat.Coprime D N) :
    (D : Int) ∣ x * N ↔ (D : Int) ∣ x := by
  constructor
  · intro h
    rw [Int.ofNat_dvd_left] at h ⊢
    rw [Int.natAbs_mul, Int.natAbs_natCast] at h
    exact hc.dvd_of_dvd_mul_right h
  · intro h; exact Int.dvd_mul_of_dvd_left h

theorem truncChecker_iff (t : IntTy) (D : Nat) (x : Int) (h : (D : Int) ≤ t.hi) :
    truncationChecker x (gvInt t D) = true ↔ ¬ (D : Int) ∣ x := by
  rw [gvInt_of_le t D h]
  simp only [truncationChecker, decide_eq_true_eq]
  exact ⟨fun h hd => h (Int.tmod_eq_zero_of_dvd hd), fun h hm => h (Int.dvd_of_tmod_eq_zero hm)⟩

/-- Soundness half: "no truncation" is right even when `D` does not fit. -/
theorem truncChecker_sound (t : IntTy) (D : Nat) (x : Int)
    (h : truncationChecker x (gvInt t D) = false) : (D : Int) ∣ x := by
  by_cases hfit : (D : Int) ≤ t.hi
  · exact Decidable.of_not_not fun hd => by rw [(truncChecker_iff t D x hfit).2 hd] at h; cases h
  · -- `D` does not fit: "no truncation" is answered for `x = 0` only
    rw [gvInt_of_gt t D hfit] at h
    simp only [truncationChecker, decide_eq_false_iff_not, ne_eq, Decidable.not_not] at h
    subst h; exact Int.dvd_zero _

/-- When `D` does not fit `T` the checker answers `x ≠ 0`, which is right except at `x = -D` (only `x = min(T)`,
`D = 2^(bits-1)`); `wouldTruncate` avoids that point by checking in the promoted type (finding F8). -/
theorem truncChecker_complete (t : IntTy) (ht : t ∈ IntTy.all) (D : Nat) (x : Int) (hx : t.inRange x)
    (hex : x ≠ -(D : Int))
    (h : truncationChecker x (gvInt t D) = true) : ¬ (D : Int) ∣ x := by
  by_cases hfit : (D : Int) ≤ t.hi
  · exact (truncChecker_iff t D x hfit).1 h
  · -- `D` exceeds `max(T)`: the only multiple of `D` in the range other than `-D` is 0
    rw [gvInt_of_gt t D hfit] at h
    simp only [truncationChecker, decide_eq_true_eq] at h
    intro hd
    have := lo_eq t ht; have := hx.1; have := hx.2
    exact h (Int.eq_zero_of_dvd_of_natAbs_lt_natAbs hd (by omega))

/-! ### Clean evaluation: a value, no unsigned wrap-around, no narrowing -/

theorem finish_ok (t : IntTy) (ht : t ∈ IntTy.all) (v : Int) (w : Bool) (h : t.inRange v) :
    finish t ⟨.ok v, w⟩ = ⟨.ok v, w, false⟩ := by
  simp [finish, wrap_of_inRange t ht v h]

theorem finish_clean_iff (t : IntTy) (ht : t ∈ IntTy.all) (s : Step) (z : Int) :
    finish t s = ⟨.ok z, false, false⟩ ↔ s = ⟨.ok z, false⟩ ∧ t.inRange z := by
  obtain ⟨v | w, b⟩ := s
  · simp only [finish, ApplyResult.mk.injEq, Eval.ok.injEq, decide_eq_false_iff_not, ne_eq, Decidable.not_not,
      Step.mk.injEq, wrap_eq_self_iff t ht]
    constructor
    · rintro ⟨h1, h2, h3⟩; rw [wrap_of_inRange t ht v h3] at h1; subst h1; exact ⟨⟨rfl, h2⟩, h3⟩
    · rintro ⟨⟨rfl, h2⟩, h3⟩; exact ⟨wrap_of_inRange t ht _ h3, h2, h3⟩
  · simp [finish]

theorem tdiv_inRange (t : IntTy) (D : Nat) (hD : 0 < D) (y : Int)
    (h : t.lo * D ≤ y ∧ y ≤ t.hi * D) : t.inRange (Int.tdiv y D) := by
  have hD' : (0 : Int) < D := by omega
  have e (a : Int) : Int.tdiv (a * D) D = a := Int.mul_tdiv_cancel _ (by omega)
  exact ⟨e t.lo ▸ Int.tdiv_le_tdiv hD' h.1, e t.hi ▸ Int.tdiv_le_tdiv hD' h.2⟩

/-- `apply_magnitude`, all three `ApplyAs` categories.  `hx` matters only for a pure division, where no product is
formed; any stored value of `T` satisfies it. -/
theorem applyMag_clean_iff (t : IntTy) (ht : t ∈ IntTy.all) (N D : Nat) (hD : 0 < D) (x z : Int)
    (hx : N = 1 → t.promote.inRange x) :
    applyMag t N D x = ⟨.ok z, false, false⟩ ↔
      t.promote.inRange (x * N) ∧ t.inRange (Int.tdiv (x * N) D) ∧ z = Int.tdiv (x * N) D := by
  have hp := promote_mem t ht
  have hD' : (0 : Int) < D := by omega
  unfold applyMag
  cases hcat : categorize N D with
  | intMul =>
    obtain rfl := cat_intMul hcat
    simp only [finish_clean_iff t ht, mulIn_clean_iff _ hp, Int.natCast_one, Int.tdiv_one]
    constructor
    · rintro ⟨⟨h1, rfl⟩, h2⟩; exact ⟨h1, h2, rfl⟩
    · rintro ⟨h1, h2, rfl⟩; exact ⟨⟨h1, rfl⟩, h2⟩
  | intDiv =>
    obtain rfl := (cat_intDiv hcat).1
    simp only [finish_clean_iff t ht, divIn_ok_of_pos _ _ _ hD', Int.natCast_one, Int.mul_one, hx rfl,
      true_and, Step.mk.injEq, Eval.ok.injEq, and_true]
    constructor
    · rintro ⟨rfl, h⟩; exact ⟨h, rfl⟩
    · rintro ⟨h, rfl⟩; exact ⟨rfl, h⟩
  | rational =>
    have hm := mulIn_clean_iff _ hp x N
    dsimp only
    generalize mulIn t.promote x N = s at hm ⊢
    obtain ⟨v | w, b⟩ := s
    · simp only [divIn_ok_of_pos _ _ _ hD', Bool.or_false, finish_clean_iff t ht, Step.mk.injEq, Eval.ok.injEq] at hm ⊢
      constructor
      · rintro ⟨⟨rfl, rfl⟩, h⟩; obtain ⟨h1, rfl⟩ := (hm v).1 ⟨rfl, rfl⟩; exact ⟨h1, h, rfl⟩
      · rintro ⟨h1, h, rfl⟩; obtain ⟨rfl, rfl⟩ := (hm _).2 ⟨h1, rfl⟩; exact ⟨⟨rfl, rfl⟩, h⟩
    · simp only [Step.mk.injEq, reduceCtorEq, false_and, false_iff, not_and] at hm ⊢
      exact ⟨nofun, fun h => absurd rfl (hm _ h.1)⟩

theorem okInterval_spec (t : IntTy) (N D : Nat) (x : Int) (hx : t.inRange x) :
    wouldOverflow t N D x = !(decide ((okInterval t N D).1 ≤ x) && decide (x ≤ (okInterval t N D).2)) := by
  unfold wouldOverflow okInterval
  cases hcat : categorize N D with
  | intMul =>
    dsimp only
    cases hg : gvInt t N with
    | some mv =>
      simp only [wouldProductOverflow]
      by_cases h1 : x > Int.tdiv t.hi mv <;> by_cases h2 : x < Int.tdiv t.lo mv <;>
        simp [h1, h2] <;> omega
    | none =>
      simp only [wouldProductOverflow]
      by_cases h : x = 0 <;> simp [h] <;> omega
  | intDiv =>
    have := hx.1; have := hx.2
    simp [*]
  | rational =>
    dsimp only
    cases hs : t.signed with
    | true => simp [Bool.and_comm]
    | false =>
      have := hx.1
      simp [*]

theorem truncKind_spec (t : IntTy) (N D : Nat) (x : Int) :
    wouldTruncate t N D x = (truncKind t N D).eval x := by
  unfold wouldTruncate truncKind
  cases hcat : categorize N D with
  | intMul => rfl
  | intDiv => dsimp only; cases hg : gvInt t D <;> simp [truncationChecker, TruncKind.eval]
  | rational => dsimp only; cases hg : gvInt t.promote D <;> simp [truncationChecker, TruncKind.eval]

end Au
