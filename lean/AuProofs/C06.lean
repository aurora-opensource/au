import AuModel.Policy
import AuProofs.Lemmas.GetValue
import AuProofs.Lemmas.FltPipeline
namespace Au

/-! # C06 — the implicit-conversion policy is total and as documented -/

/-- **Totality.**  Trivial for a Lean `Bool` function.  What it stands for: the model is of the tree after the F2 fix, where
the total `get_value_result` stands for `get_value<Rep>`; that the implementation never hard-errors is the correspondence
part of the check. -/
theorem C06_total (sameDim : Bool) (rep : Rep) (sf : Mag) (src : Rep) :
    permitImplicitFrom sameDim rep sf src = true ∨ permitImplicitFrom sameDim rep sf src = false := by
  cases permitImplicitFrom sameDim rep sf src <;> simp

/-- Floating-point targets accept every same-dimension source. -/
theorem C06_float_target (sameDim : Bool) (f : FltTy) (sf : Mag) (src : Rep) :
    permitImplicitFrom sameDim (.flt f) sf src = sameDim := by
  unfold permitImplicitFrom corePolicy
  by_cases h : Rep.flt f = src ∧ sf = [] <;> simp [h]

/-- The one fact about the *double* evaluation the policy relies on: an integer magnitude evaluates
to a `double` ≤ 1.0 only when it is ONE.  It is a statement about the rounded floating pipeline,
proved for every integer magnitude with well-formed prime bases (`magAsDoubleLeOne_false`). -/
def DoubleLeOneOnlyForOne (sf : Mag) : Prop := magAsDoubleLeOne sf = true → sf = []

/-- The threshold test is the documented inequality `2147 · k ≤ max(R2)`. -/
theorem canScaleThreshold_iff (t : IntTy) (ht : t ∈ IntTy.all) (sf : Mag)
    (hpos : ∀ a ∈ sf, ∀ p, a.1 = .prime p → 1 ≤ p) (hint : Mag.isIntegerMag sf = true)
    (hd : DoubleLeOneOnlyForOne sf) :
    canScaleThreshold t sf = true ↔ overflowThreshold * Mag.natValue sf ≤ t.hi := by
  have hk1 := natValue_ge_one sf (intElem_of_isInteger sf hpos hint)
  have hhi := hi_nonneg t ht
  have hlo := lo_nonpos t ht
  -- if `2147·k` fits, so do `k` and 2147 itself
  have hle : overflowThreshold * Mag.natValue sf ≤ t.hi → Mag.natValue sf ≤ t.hi ∧ t.inRange overflowThreshold := by
    unfold IntTy.inRange overflowThreshold
    intro h
    omega
  unfold canScaleThreshold canScaleWithoutOverflow
  by_cases hone : magAsDoubleLeOne sf = true
  · -- only ONE: k = 1
    obtain rfl := hd hone
    simp only [hone, if_true, Bool.and_true, decide_eq_true_eq]
    show t.inRange overflowThreshold ↔ overflowThreshold * Mag.natValue [] ≤ t.hi
    refine ⟨fun ⟨_, hhi'⟩ => ?_, fun h => (hle h).2⟩
    unfold overflowThreshold at *
    simpa [natValue_nil] using hhi'
  · -- otherwise `get_value_result<R2>` decides: OK with `k` when `k` fits, and then the test is `2147 ≤ max / k`
    simp only [hone, Bool.false_eq_true, if_false, getValueResultInt_closed t ht sf hpos, hint, if_true]
    have hthr := thr_pos t.hi (Mag.natValue sf) overflowThreshold (by omega) hhi
    by_cases hfit : Mag.natValue sf ≤ t.hi
    · simp only [if_pos hfit, Bool.and_eq_true, decide_eq_true_eq]
      show t.inRange overflowThreshold ∧ Int.tdiv t.hi (Mag.natValue sf) ≥ overflowThreshold ↔ _
      exact ⟨fun ⟨_, hdiv⟩ => hthr.1 hdiv, fun h => ⟨(hle h).2, hthr.2 h⟩⟩
    · simp only [if_neg hfit, Bool.and_false, Bool.false_eq_true, false_iff]
      exact fun h => hfit (hle h).1

/-- **The documented formula.**  For every integral target rep, every source rep
and every scale factor `sf = U1/U2` whose prime bases are well formed, an implicit conversion is
permitted exactly when the dimensions match and either the source is integral and `U1/U2` is an
integer `k` with `2147 · k ≤ max(R2)`, or `k = 1` between integral reps. -/
theorem C06_formula (sameDim : Bool) (t : IntTy) (ht : t ∈ IntTy.all) (sf : Mag) (src : Rep)
    (hok : Mag.PrimesOK sf) :
    permitImplicitFrom sameDim (.int t) sf src = true ↔
      (sameDim = true ∧
        ((src.isInt = true ∧ Mag.isIntegerMag sf = true ∧ overflowThreshold * Mag.natValue sf ≤ t.hi) ∨
         (sf = [] ∧ src.isInt = true))) := by
  unfold permitImplicitFrom corePolicy carveOut
  by_cases hid : Rep.int t = src ∧ sf = []
  · obtain ⟨hs, hn⟩ := hid
    subst hs; subst hn
    simp [Rep.isInt, Rep.isFloat]
  · simp only [hid, if_false]
    cases hint : Mag.isIntegerMag sf with
    | false => simp [Rep.isInt, Rep.isFloat]   -- the threshold test is never consulted
    | true =>
      have hc := canScaleThreshold_iff t ht sf (fun a ha p hp => by have := (hok a ha p hp).1; omega) hint
        (fun h => by by_contra hne; rw [magAsDoubleLeOne_false sf hne hint hok] at h; cases h)
      cases hct : canScaleThreshold t sf with
      | true => simp [hc.1 hct, Rep.isInt, Rep.isFloat]
      | false =>
        have hnle : ¬ (overflowThreshold * Mag.natValue sf ≤ t.hi) := fun h => by simp [hc.2 h] at hct
        simp [hnle, Rep.isInt, Rep.isFloat]

theorem primesOK_two_five (e : Rat) : Mag.PrimesOK [(.prime 2, e), (.prime 5, e)] := by
  intro a ha p hp
  simp only [List.mem_cons, List.not_mem_nil, or_false] at ha
  rcases ha with rfl | rfl <;> cases hp <;> decide

/-- Non-vacuity: kilo (2^3·5^3) has well-formed bases and is an integer magnitude. -/
example : Mag.PrimesOK [(.prime 2, 3), (.prime 5, 3)] ∧ Mag.isIntegerMag [(.prime 2, 3), (.prime 5, 3)] = true := by
  exact ⟨primesOK_two_five 3, by decide⟩

open IntTy

/-- Consequence: a permitted conversion into an integral rep cannot overflow for any value of
magnitude up to 2147 that the target can hold (the exact product stays in the target's range; that
the library's pipeline then computes exactly this product is C03/C05). -/
theorem C06_no_overflow_up_to_threshold (t : IntTy) (k x : Int) (hk : 1 ≤ k)
    (hperm : overflowThreshold * k ≤ t.hi) (hx : -overflowThreshold ≤ x ∧ x ≤ overflowThreshold)
    (hlo : t.lo = 0 ∨ t.lo = -(t.hi + 1)) (hxr : t.inRange x) : t.inRange (x * k) := by
  unfold IntTy.inRange overflowThreshold at *
  rcases hlo with h0 | h1
  · have hx0 : 0 ≤ x := by omega
    constructor
    · rw [h0]; exact Int.mul_nonneg hx0 (by omega)
    · nlinarith
  · constructor <;> nlinarith

/-- Regression guards for finding F2 (fixed) and non-vacuity: kilo into int32 permitted; 10^5 into int16 and kilo into int8
(k > max) answer false, not a hard error; ONE via the carve-out; 1/2 is not an integer. -/
theorem C06_F2_fixed :
    permitImplicitFrom true (.int i32) [(.prime 2, 3), (.prime 5, 3)] (.int i32) = true ∧
    permitImplicitFrom true (.int i16) [(.prime 2, 5), (.prime 5, 5)] (.int i16) = false ∧
    permitImplicitFrom true (.int i8) [(.prime 2, 3), (.prime 5, 3)] (.int i8) = false ∧
    permitImplicitFrom true (.int i8) [] (.int u64) = true ∧
    permitImplicitFrom true (.int i64) [(.prime 2, -1)] (.int i64) = false := by
  -- The last three are settled before `get_value_result<double>` is consulted.  The first two reach the threshold test
  -- (evaluating it runs the long-double pipeline, which is slow to check): the documented formula answers them.
  refine ⟨?_, ?_, by decide +kernel, by decide +kernel, by decide +kernel⟩
  · rw [C06_formula true i32 (by decide) _ _ (primesOK_two_five 3)]
    decide +kernel
  · rw [Bool.eq_false_iff, Ne, C06_formula true i16 (by decide) _ _ (primesOK_two_five 5)]
    decide +kernel

end Au
