import AuProofs.Lemmas.CommonUnit
import AuProofs.C02
namespace Au
open Pack

/-! # C07 — the common unit is the gcd unit, symmetric in its inputs -/

/-- The pairwise ratios of the inputs are rational numbers. -/
def RationalRatios (ms : List Mag) : Prop :=
  ∀ a ∈ ms, ∀ b ∈ ms, (∀ p, (den a (.prime p) - den b (.prime p)).den = 1) ∧ den a .pi = den b .pi

/-- **C07 (divides).**  Every input is a positive-integer multiple of the common unit: the ratio
`mᵢ / common` has a non-negative exponent at every base, an *integer* exponent at every prime and
exponent 0 at π whenever the pairwise ratios are rational. -/
theorem C07_divides (ms : List Mag) (hv : ∀ m ∈ ms, Valid MagBase.lt m) (m : Mag) (hm : m ∈ ms) :
    (∀ x, 0 ≤ den m x - den (Mag.commonAll ms) x) ∧
    (RationalRatios ms → (∀ p, (den m (.prime p) - den (Mag.commonAll ms) (.prime p)).den = 1) ∧
      den m .pi - den (Mag.commonAll ms) .pi = 0) := by
  -- at each base the common magnitude has the exponent of some input `m'`, so `m / common` has
  -- there the exponent of the ratio `m / m'`
  refine ⟨fun x => ?_, fun hr => ⟨fun p => ?_, ?_⟩⟩
  · exact MagLe.iff_sub_nonneg.1 (Mag.commonAll_le ms hv m hm) x
  · obtain ⟨m', hm', he⟩ := Mag.commonAll_attained ms hv (List.ne_nil_of_mem hm) (.prime p)
    rw [he]; exact (hr m hm m' hm').1 p
  · obtain ⟨m', hm', he⟩ := Mag.commonAll_attained ms hv (List.ne_nil_of_mem hm) .pi
    rw [he, (hr m hm m' hm').2]; grind

/-- **C07 (greatest).**  No base divides all the ratios: at every base some input has ratio exponent 0,
so the integer ratios are jointly coprime and no larger unit divides every input. -/
theorem C07_greatest (ms : List Mag) (hv : ∀ m ∈ ms, Valid MagBase.lt m) (hne : ms ≠ []) (x : MagBase) :
    ∃ m ∈ ms, den m x - den (Mag.commonAll ms) x = 0 := by
  obtain ⟨m, hm, he⟩ := Mag.commonAll_attained ms hv hne x
  exact ⟨m, hm, by rw [he]; grind⟩

/-- **C07 (nesting).**  A common magnitude nested inside another equals the flat one. -/
theorem C07_nesting (a b c : Mag) (ha : Valid MagBase.lt a) (hb : Valid MagBase.lt b) (hc : Valid MagBase.lt c) :
    Mag.commonAll [Mag.commonAll [a, b], c] = Mag.commonAll [a, b, c] := by
  rw [Mag.commonAll_pair]
  exact Mag.common2_assoc a b c ha hb hc

/-- **C07 (symmetry).**  For *every* strict total order on unit types, the computed common unit — the
complete pipeline `FlatDedupedTypeList → EliminateRedundantUnits → FirstMatchingUnit →
SimplifyIfOnlyOneUnscaledUnit` — is the identical type for any two input lists with the same set
of members: every permutation and every repetition.  No rationality hypothesis: this also covers
irrational ratios. -/
theorem C07_perm {lt : U → U → Bool} (hlt : StrictTotal lt) (env : Env) (us vs : List U)
    (hs : ∀ u ∈ us, SSorted lt u.commonParts) (hs' : ∀ u ∈ vs, SSorted lt u.commonParts)
    (hm : ∀ u, u ∈ us ↔ u ∈ vs) : commonUnit env lt us = commonUnit env lt vs := by
  unfold commonUnit
  rw [flatDedup_map_congr hlt U.commonParts us vs hs hs' hm]

/-- **C07 (is an input).**  If some member of the reduced list is quantity-equivalent to the common
unit, the result of `FirstMatchingUnit` is one of the members (not a fresh `CommonUnit<...>`). -/
theorem firstMatching_mem (pred : U → U → Bool) (target : U) :
    (l : List U) → (∃ h ∈ l, pred target h = true) → firstMatching pred target l ∈ l := by
  intro l h
  rw [firstMatching_eq_find]
  obtain ⟨y, hy⟩ := Option.isSome_iff_exists.1 (List.find?_isSome.2 h)
  rw [hy]
  exact List.mem_of_find?_eq_some hy

theorem simplifyIfOnlyOneUnscaled_den {lt : U → U → Bool} (env : Env) (hw : env.WF) {u : U} (hu : HGood lt u) (x : MagBase) :
    den ((simplifyIfOnlyOneUnscaled env lt u).magOf env) x = den (u.magOf env) x := by
  rcases simplifyIfOnlyOneUnscaled_cases env hu with h | ⟨sole, hgs, h⟩
  · rw [h]
  · have vu := hu.magOf_valid hw
    have vs := hgs.magOf_valid hw
    rw [h, Mag.div, (U.scale_dim_mag env hw hgs _ (div_valid MagBase.lt_strictTotal _ _ vu vs)).2 x,
      div_den MagBase.lt_strictTotal _ _ vu.1 vs]
    grind

/-- Nothing is asked of `lt`: the order only decides which of several units of the common magnitude
is returned. -/
theorem commonUnit_mag {lt : U → U → Bool} (env : Env) (hw : env.WF) (us : List U)
    (hg : ∀ u ∈ us, ∀ p ∈ u.commonParts, HGood lt p) (x : MagBase) :
    den ((commonUnit env lt us).magOf env) x =
      den (Mag.commonAll ((us.flatMap U.commonParts).map (U.magOf env))) x := by
  have memA : ∀ p, p ∈ flatDedup lt (us.map U.commonParts) ↔ p ∈ us.flatMap U.commonParts :=
    fun p => by rw [mem_flatDedup_map, List.mem_flatMap]
  have goodF : ∀ p ∈ us.flatMap U.commonParts, HGood lt p := fun p hp =>
    let ⟨u, hu, hpu⟩ := List.mem_flatMap.1 hp; hg u hu p hpu
  have validF : ∀ p ∈ us.flatMap U.commonParts, Valid MagBase.lt (p.magOf env) :=
    fun p hp => (goodF p hp).magOf_valid hw
  obtain ⟨sub, dom⟩ := eliminateRedundant_spec env lt (flatDedup lt (us.map U.commonParts))
    fun p hp => validF p ((memA p).1 hp)
  have goodL := fun p hp => goodF p ((memA p).1 (sub p hp))
  -- `SimplifyIfOnlyOneUnscaledUnit` and `FirstMatchingUnit` keep the magnitude of `CommonUnit<l...>`, and the
  -- list `l` left by `EliminateRedundantUnits` has the lower envelope of all the parts
  unfold commonUnit
  rw [simplifyIfOnlyOneUnscaled_den env hw (firstMatching_good (mkCommon_good goodL) goodL) x,
    firstMatching_qEquiv_mag, mkCommon_mag,
    Mag.commonAll_envelope (U.magOf env) _ (us.flatMap U.commonParts)
      (fun p hp => validF p ((memA p).1 (sub p hp))) validF (fun p hp => dom p ((memA p).2 hp))
      fun p hp => ⟨p, (memA p).1 (sub p hp), MagLe.refl _⟩]

set_option linter.unusedVariables false in
/-- **C07 (the whole pipeline computes the gcd unit).**  For all well-formed inputs, the magnitude of
`CommonUnitT<Us...>` — after `FlatDedupedTypeList`, `EliminateRedundantUnits`, `FirstMatchingUnit` and
`SimplifyIfOnlyOneUnscaledUnit` — equals, base by base, the common magnitude (minimum exponent) of the
inputs' parts.  Together with `C07_divides` and `C07_greatest` this is: every input is a
positive-integer multiple of the result, jointly coprime.  The hypotheses on the order, on sorted parts
and on non-emptiness are not needed (`commonUnit_mag`). -/
theorem C07_pipeline_mag {lt : U → U → Bool} (hlt : StrictTotal lt) (env : Env) (hw : env.WF) (us : List U)
    (hg : ∀ u ∈ us, ∀ p ∈ u.commonParts, HGood lt p)
    (hs : ∀ u ∈ us, SSorted lt u.commonParts)
    (hne : us.flatMap U.commonParts ≠ []) (x : MagBase) :
    den ((commonUnit env lt us).magOf env) x =
      den (Mag.commonAll ((us.flatMap U.commonParts).map (U.magOf env))) x :=
  commonUnit_mag env hw us hg x

/-- Feet (2⁻¹·3·5⁻⁴·127 m), two inches (2⁻²·5⁻⁴·127 m) and metres have the common magnitude
2⁻²·5⁻⁴ (1/2500 m). -/
example : Mag.commonAll [[(.prime 2, -1), (.prime 3, 1), (.prime 5, -4), (.prime 127, 1)],
                         [(.prime 2, -2), (.prime 5, -4), (.prime 127, 1)], []] =
    [(.prime 2, -2), (.prime 5, -4)] := by decide +kernel

end Au
