/-
  C20 — behaviour is independent of packaging: the part that is a theorem.

  `tools/bin/make-single-file` (model: AuModel/SingleFile.lean) decides WHICH files end up in the
  single-file header and IN WHICH ORDER.  For every finite include graph that is acyclic, has no
  duplicated include line and no dangling include, and for every selection of existing files
  (au.hh, the chosen units and constants, io.hh unless --noio), the script terminates within its
  stated iteration bounds and emits exactly the include closure of the selection, each file once and
  after all the files it includes (`C20_emit_spec`, and clause by clause the theorems after it),
  so the concatenation presents each definition once, after everything it needs — which is what the
  preprocessor produces from the multi-header tree under `#pragma once`.  Without the
  "no duplicated include line" premise the statement is FALSE for the script as written
  (`C20_full_counterexample`: the `while unvisited_deps:` loop never exits).

  That the repository's real include graph satisfies the premises is checked on every run
  (AuProofs/Gen/C20.lean over lean/Generated/IncludeGraph.lean); that the model is the script is
  checked on every run by tools/p_c20.py (real script vs. `audriver` on the real tree and on random
  graphs).  Everything about compilers and language standards is correspondence only.

  The page's namespace is `Au`: a lemma about `SingleFile.Reachable` (or `Reach`, `Topo`) written here
  must be declared `SingleFile.Reachable.x` to serve dot notation.
-/
import AuProofs.Lemmas.SingleFile
namespace Au
open SingleFile

structure C20_WellFormed (g : Graph) : Prop where
  /-- every `#include "au/…"` names an existing file -/
  targets : TargetsExist g
  /-- no file has the same project include twice -/
  nodup : IncNodup g
  /-- no include cycle -/
  acyclic : NoCycle g

/-- The conclusion: `order` is exactly the closure of `names`, once each, includes first. -/
def C20_Spec (g : Graph) (names order : List File) : Prop :=
  order.Nodup ∧ (∀ f, f ∈ order ↔ Reachable g names f) ∧
  (∀ a f b, order = a ++ f :: b → ∀ h, Edge g f h → h ∈ a)

/-- **Main theorem.**  On every well-formed graph and every selection of existing files the model
of the script terminates within its stated bounds and its output satisfies `C20_Spec`. -/
theorem C20_emit_spec (g : Graph) (hg : C20_WellFormed g) (names : List File)
    (hN : ∀ s, s ∈ names → (g.lookup s).isSome = true) :
    ∃ order, emitOrder g names = .done order ∧ C20_Spec g names order := by
  obtain ⟨files, hp⟩ := parse_total hg.targets names hN
  obtain ⟨hnd, hmem⟩ := parse_spec hp
  have hclosed : ∀ f, f ∈ files → ∀ h, Edge g f h → h ∈ files :=
    fun f hf h e => (hmem h).2 (((hmem f).1 hf).edge e)
  obtain ⟨order, ho, hT, hn, hm⟩ := sort_spec hg.nodup (hasSinks_of_noCycle hg.acyclic) hnd hclosed
  exact ⟨order, by simp [emitOrder, hp, ho], hn, fun f => (hm f).trans (hmem f), hT.includes_before⟩

/-- Termination: `names.length + edgeCount g` iterations of the work-list loop and `files.length`
rounds of the sorting loop suffice (these are the bounds built into `emitOrder`). -/
theorem C20_terminates (g : Graph) (hg : C20_WellFormed g) (names : List File)
    (hN : ∀ s, s ∈ names → (g.lookup s).isSome = true) :
    ∃ order, emitOrder g names = .done order :=
  let ⟨o, h, _⟩ := C20_emit_spec g hg names hN; ⟨o, h⟩

theorem C20_spec_of_done {g : Graph} (hg : C20_WellFormed g) {names order : List File}
    (hN : ∀ s, s ∈ names → (g.lookup s).isSome = true) (h : emitOrder g names = .done order) :
    C20_Spec g names order := by
  obtain ⟨o, h', hs⟩ := C20_emit_spec g hg names hN
  rw [h] at h'
  cases h'
  exact hs

/-- The emitted set is the reflexive-transitive include closure of the selection. -/
theorem C20_closure (g : Graph) (hg : C20_WellFormed g) (names order : List File)
    (hN : ∀ s, s ∈ names → (g.lookup s).isSome = true) (h : emitOrder g names = .done order)
    (f : File) : f ∈ order ↔ Reachable g names f := by
  obtain ⟨-, hclosure, -⟩ := C20_spec_of_done hg hN h
  exact hclosure f

/-- Every file is emitted exactly once. -/
theorem C20_once (g : Graph) (hg : C20_WellFormed g) (names order : List File)
    (hN : ∀ s, s ∈ names → (g.lookup s).isSome = true) (h : emitOrder g names = .done order) :
    order.Nodup := by
  obtain ⟨hnodup, -, -⟩ := C20_spec_of_done hg hN h
  exact hnodup

/-- Every include precedes its includer. -/
theorem C20_topological (g : Graph) (hg : C20_WellFormed g) (names order : List File)
    (hN : ∀ s, s ∈ names → (g.lookup s).isSome = true) (h : emitOrder g names = .done order)
    (a : List File) (f : File) (b : List File) (e : order = a ++ f :: b) (t : File)
    (het : Edge g f t) : t ∈ a := by
  obtain ⟨-, -, htopo⟩ := C20_spec_of_done hg hN h
  exact htopo a f b e t het

/-- The selection as the command line gives it: `au/au.hh`, every chosen unit and constant, every
extra main file and (unless `--noio`) `au/io.hh` are in the output; with `--noio`, `io.hh` is in
the output only if something selected includes it. -/
theorem C20_selection (g : Graph) (hg : C20_WellFormed g) (au : File) (units constants mains : List File)
    (io : Option File) (order : List File)
    (hN : ∀ s, s ∈ filenames au units constants mains io → (g.lookup s).isSome = true)
    (h : emitOrder g (filenames au units constants mains io) = .done order) :
    au ∈ order ∧ (∀ u, u ∈ units → u ∈ order) ∧ (∀ c, c ∈ constants → c ∈ order) ∧
    (∀ m, m ∈ mains → m ∈ order) ∧ (∀ i, io = some i → i ∈ order) ∧
    (∀ f, f ∈ order → ∃ s, s ∈ filenames au units constants mains io ∧ Reach g s f) := by
  have hc := C20_closure g hg _ order hN h
  have self : ∀ s, s ∈ filenames au units constants mains io → s ∈ order :=
    fun s hs => (hc s).2 (.of_mem hs)
  refine ⟨self au (by simp [filenames]), fun u hu => self u (by simp [filenames, hu]),
    fun c hc' => self c (by simp [filenames, hc']), fun m hm => self m (by simp [filenames, hm]),
    fun i hi => self i (by subst hi; simp [filenames]), fun f hf => (hc f).1 hf⟩

/-- The set of emitted files does not depend on the order (or multiplicity) in which units and
constants are listed on the command line. -/
theorem C20_selection_order_irrelevant (g : Graph) (hg : C20_WellFormed g) (n1 n2 o1 o2 : List File)
    (hN1 : ∀ s, s ∈ n1 → (g.lookup s).isSome = true) (hsame : ∀ s, s ∈ n1 ↔ s ∈ n2)
    (h1 : emitOrder g n1 = .done o1) (h2 : emitOrder g n2 = .done o2) (f : File) :
    f ∈ o1 ↔ f ∈ o2 := by
  have hN2 : ∀ s, s ∈ n2 → (g.lookup s).isSome = true := fun s hs => hN1 s ((hsame s).2 hs)
  rw [C20_closure g hg n1 o1 hN1 h1, C20_closure g hg n2 o2 hN2 h2]
  exact ⟨Reachable.mono fun s => (hsame s).1, Reachable.mono fun s => (hsame s).2⟩

/-- The iteration bounds are a proof device, not behaviour: any run with explicit bounds that
finishes gives the same list as `emitOrder`. -/
theorem C20_fuel_irrelevant (g : Graph) (names : List File) (f1 f2 : Nat) (o o' : List File)
    (h : orderWithFuel g names f1 f2 = .done o) (h' : emitOrder g names = .done o') : o = o' := by
  obtain ⟨files, hp, hs⟩ := orderWithFuel_done.1 h
  obtain ⟨files', hp', hs'⟩ := emitOrder_done.1 h'
  cases parseLoop_det hp hp'
  exact sortLoop_det hs hs'

namespace SingleFile

/-- `1` contains `#include "0"` twice. -/
def dupGraph : Graph := [(0, []), (1, [0, 0])]

theorem dupGraph_sort : ∀ fuel, sortLoop fuel (initDeps dupGraph [1, 0]) [] = .outOfFuel := by
  intro fuel
  cases fuel with
  | zero => decide
  | succ fuel =>
    -- the first round emits `0` and strikes ONE of its two occurrences in the list of `1`
    have h1 : sortLoop (fuel + 1) (initDeps dupGraph [1, 0]) [] = sortLoop fuel [(1, [0])] [0] := rfl
    rw [h1]
    exact sort_stuck (by simp) (by decide) fuel _

theorem dupGraph_diverges : ∀ f1 f2, ∀ order, orderWithFuel dupGraph [1] f1 f2 ≠ .done order := by
  intro f1 f2 order h
  obtain ⟨files, hp, hs⟩ := orderWithFuel_done.1 h
  -- three iterations parse `[1, 0]`, and no other bound gives another list
  cases parseLoop_det hp (show parseLoop dupGraph 3 [1] [] = .done [1, 0] by decide)
  rw [dupGraph_sort] at hs; cases hs

end SingleFile

/-- Full-strength statement: acyclic graph, existing targets, nothing else. -/
def C20_full : Prop :=
  ∀ (g : Graph) (names : List File), TargetsExist g → NoCycle g →
    (∀ s, s ∈ names → (g.lookup s).isSome = true) →
    ∃ f1 f2 order, orderWithFuel g names f1 f2 = .done order ∧ C20_Spec g names order

/-- A header that contains `#include "au/x.hh"` twice: `remove` deletes one copy, the other stays in
`unvisited_deps[f]` forever, and no bound on the number of rounds lets the loop finish. -/
theorem C20_full_counterexample : ¬ C20_full := by
  intro h
  have hT : TargetsExist dupGraph := targetsExist_of_check (by decide)
  have hC : NoCycle dupGraph := noCycle_of_rank (rankAcyclic_of_check (by decide))
  obtain ⟨f1, f2, order, ho, _⟩ := h dupGraph [1] hT hC (by decide)
  exact dupGraph_diverges f1 f2 order ho

/-- The strongest true version is `C20_emit_spec` (premise `IncNodup` added); restated in the shape
of `C20_full`. -/
theorem C20_partial : ∀ (g : Graph) (names : List File), TargetsExist g → NoCycle g → IncNodup g →
    (∀ s, s ∈ names → (g.lookup s).isSome = true) →
    ∃ f1 f2 order, orderWithFuel g names f1 f2 = .done order ∧ C20_Spec g names order := by
  intro g names hT hC hN hE
  obtain ⟨order, ho, hs⟩ := C20_emit_spec g ⟨hT, hN, hC⟩ names hE
  obtain ⟨files, hp, hso⟩ := emitOrder_done.1 ho
  exact ⟨_, _, order, orderWithFuel_done.2 ⟨files, hp, hso⟩, hs⟩

/-- An include cycle, or a missing file, also stops the script from producing a header (these are
outside the property's quantifier; recorded so that the driver's answers on malformed graphs are
backed by statements). -/
theorem C20_cycle_diverges : ∀ fuel, sortLoop fuel (initDeps [(0, [1]), (1, [0])] [0, 1]) [] = .outOfFuel := by
  intro fuel
  have h1 : initDeps [(0, [1]), (1, [0])] [0, 1] = [(0, [1]), (1, [0])] := by decide
  rw [h1]
  exact sort_stuck (by simp) (by decide) fuel _

theorem C20_missing_file : emitOrder [(0, [7])] [0] = .missing 7 := by decide

/-- A small graph shaped like the library: 0 = fwd.hh, 1 = quantity.hh, 2 = units/meters_fwd.hh,
3 = units/meters.hh, 4 = io.hh, 5 = au.hh. -/
def C20_demo : Graph := [(0, []), (1, [0]), (2, []), (3, [2, 1]), (4, [1]), (5, [1])]

theorem C20_demo_wf : C20_WellFormed C20_demo :=
  ⟨targetsExist_of_check (by decide), incNodup_of_check (by decide),
   noCycle_of_rank (rankAcyclic_of_check (by decide))⟩

example : emitOrder C20_demo (filenames 5 [3] [] [] (some 4)) = .done [0, 2, 1, 3, 5, 4] := by decide
example : emitOrder C20_demo (filenames 5 [3] [] [] none) = .done [0, 2, 1, 5, 3] := by decide
example : ∃ order, emitOrder C20_demo [5, 3, 4] = .done order ∧ C20_Spec C20_demo [5, 3, 4] order :=
  C20_emit_spec C20_demo C20_demo_wf [5, 3, 4] (by decide)
example : Reachable C20_demo [5, 3] 0 :=
  ⟨5, by simp, Reach.step (h := 1) ⟨[1], by decide, by simp⟩
    (Reach.step (h := 0) ⟨[0], by decide, by simp⟩ (.refl 0))⟩
example : ¬ IncNodup dupGraph := fun h => by
  have := h 1 [0, 0] (by decide); simp at this

end Au
