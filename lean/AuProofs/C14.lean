import AuModel.Products
import AuProofs.C02
namespace Au
open Pack

/-! # C14 — products, quotients and powers combine values raw-wise and units algebraically

That the values are those of the raw operator is compared by the correspondence only. -/

section
variable {lt : U → U → Bool}

/-- **C14 (units combine algebraically; collapse).**  The product of two quantities is a raw number
exactly when the units cancel: every base-dimension exponent *and* every magnitude exponent of the
two units sum to zero (`Hz · s` collapses, `Hz · ms` does not). -/
theorem C14_product_collapse_iff (hlt : StrictTotal lt) (env : Env) (hw : env.WF) {a b : U}
    (ha : HGood lt a) (hb : HGood lt b) :
    productIsRaw env lt a b = true ↔
      ((∀ d, den (a.dimOf env) d + den (b.dimOf env) d = 0) ∧
       (∀ x, den (a.magOf env) x + den (b.magOf env) x = 0)) := by
  have hm := U.mul_dim_mag hlt env hw ha hb
  have hg := ha.mul hlt hb
  unfold productIsRaw U.isUnitless
  simp only [Bool.and_eq_true, decide_eq_true_eq]
  rw [eq_nil_iff _ (hg.dimOf_valid hw), eq_nil_iff _ (hg.magOf_valid hw)]
  simp only [hm.1, hm.2]

/-- Quotients: raw exactly when dimension and magnitude of the two units coincide exponent by exponent. -/
theorem C14_quotient_collapse_iff (hlt : StrictTotal lt) (env : Env) (hw : env.WF) {a b : U}
    (ha : HGood lt a) (hb : HGood lt b) :
    quotientIsRaw env lt a b = true ↔
      ((∀ d, den (a.dimOf env) d = den (b.dimOf env) d) ∧ (∀ x, den (a.magOf env) x = den (b.magOf env) x)) := by
  have hp := U.pow_dim_mag env hw hb (-1)
  rw [quotientIsRaw, U.div, ← productIsRaw, C14_product_collapse_iff hlt env hw ha (hb.pow (-1))]
  have cancel : ∀ x y : Rat, x + y * -1 = 0 ↔ x = y := fun x y => by grind
  simp only [hp.1, hp.2, cancel]

/-- Integer-division guard: two integral quantities may be divided only if their units are
quantity-equivalent or the divisor is wrapped in `unblock_int_div`; any floating rep lifts the guard. -/
theorem C14_int_div_guard (r1 r2 : Rep) (qequiv unblocked : Bool) (h1 : r1.isInt = true) (h2 : r2.isInt = true) :
    quantityDivAllowed r1 r2 qequiv unblocked = (unblocked || qequiv) := by
  unfold quantityDivAllowed; simp [h1, h2]

theorem C14_float_div_free (r1 r2 : Rep) (qequiv unblocked : Bool) (h : r1.isInt = false ∨ r2.isInt = false) :
    quantityDivAllowed r1 r2 qequiv unblocked = true := by
  unfold quantityDivAllowed; rcases h with h | h <;> simp [h]

/-- `as_raw_number` accepts only dimensionless quantities whose conversion to the unitless unit is
policy-safe (C06's predicate with source rep = target rep). -/
theorem C14_as_raw_number (env : Env) (u : U) (r : Rep) :
    asRawNumberAllowed env u r = true ↔ (u.dimOf env = [] ∧ corePolicy r (u.magOf env) r = true) := by
  unfold asRawNumberAllowed implicitRepPermitted; simp

end
end Au
