import AuProofs.Lemmas.Chrono
import AuProofs.Lemmas.ChronoOps
import AuProofs.Lemmas.ChronoRne
namespace Au.Chrono

/-- The six special mappings name units whose magnitude is the generic `Seconds × Period` one. -/
theorem C17_special_units_agree (r : Rep) (p : Period) (n : String) (m : Mag)
    (h : special? r p = some (n, m)) : m = ratioMag p := by
  unfold special? at h
  split at h
  · cases h
  · repeat' split at h
    all_goals cases h
    all_goals subst_vars
    all_goals decide +kernel

theorem corrUnit_mag (r : Rep) (p : Period) : (corrUnit r p).2 = ratioMag p := by
  unfold corrUnit
  split
  · rename_i n m h; exact C17_special_units_agree r p n m h
  · rfl

theorem asQuantity_mag (d : Duration) : (asQuantity d).mag = ratioMag d.period := corrUnit_mag _ _

/-- **C17, round trip.**  For every duration `d` (any of the four reps, any positive period whose
reduced terms fit `intmax_t`, any count): `as_quantity(d)` has `d`'s rep and count, its unit is
seconds × Period (numerator and denominator of the unit's magnitude are `Period::num`,
`Period::den`), `as_chrono_duration` of it is well-formed and returns `d`'s rep, the reduced
period and `d`'s count, and the implicit conversion back to `d`'s own type returns `d`. -/
theorem C17_roundtrip (d : Duration) (hp : d.period.Pos)
    (hn : (d.period.norm.num : Int) ≤ i64hi) (hd : (d.period.norm.den : Int) ≤ i64hi) :
    (asQuantity d).rep = d.rep ∧ (asQuantity d).value = d.count ∧
    (Mag.numerator (asQuantity d).mag).natValue = d.period.norm.num ∧
    (Mag.denominator (asQuantity d).mag).natValue = d.period.norm.den ∧
    asChronoDuration (asQuantity d) = .ok (some ⟨d.rep, d.period.norm, d.count⟩) ∧
    toDuration (asQuantity d) d.rep d.period = .ok (some d) := by
  have hmag := asQuantity_mag d
  obtain ⟨hi1, hv1, hi2, hv2⟩ := ratioMag_value hp
  have hok : (asQuantity d).mag.Ok := hmag ▸ ok_ratioMag hp
  refine ⟨rfl, rfl, by rw [hmag]; exact hv1, by rw [hmag]; exact hv2, ?_, ?_⟩
  · unfold asChronoDuration
    rw [Mag.div_nil, hmag]
    -- `i64hi` unfolded, for `simp only`
    have hn' : ((d.period.norm.num : Int) ≤ IntTy.i64.hi) := hn
    have hd' : ((d.period.norm.den : Int) ≤ IntTy.i64.hi) := hd
    simp only [getValueInt, hi1, hv1, hi2, hv2, hn', hd', decide_true, Bool.and_self, if_true, Int.toNat_natCast]
    exact toDuration_same _ _ hok (by rw [corrUnit_mag, ratioMag_norm hp, hmag]) rfl
  · exact toDuration_same _ _ hok (by rw [corrUnit_mag, hmag]) rfl

/-- Non-vacuity and a concrete instance: `duration<int32_t, ratio<2, 4>>{7}`. -/
example : asChronoDuration (asQuantity ⟨.i32, ⟨2, 4⟩, .i 7⟩) = .ok (some ⟨.i32, ⟨1, 2⟩, .i 7⟩) ∧
    (⟨2, 4⟩ : Period).Pos ∧ (((⟨2, 4⟩ : Period).norm.num : Int) ≤ i64hi) := by
  refine ⟨by decide +kernel, ⟨by decide, by decide⟩, by decide +kernel⟩

/-- **C17, common period.**  For all positive periods, Au's common unit of the two corresponding
units *is* the unit of chrono's common period `gcd(n₁,n₂)/lcm(d₁,d₂)` (the same magnitude pack),
and both libraries scale each operand by the same integer: the unit ratio is an integer magnitude
whose value is the numerator of `std::ratio_divide<Pᵢ, CommonPeriod>`, whose denominator is 1. -/
theorem C17_common_period (p1 p2 : Period) (h1 : p1.Pos) (h2 : p2.Pos) :
    Mag.common (ratioMag p1) (ratioMag p2) = ratioMag (chronoCommonPeriod p1 p2) ∧
    chronoCommonPeriod p1 p2 = ⟨Nat.gcd p1.norm.num p2.norm.num, Nat.lcm p1.norm.den p2.norm.den⟩ ∧
    (Mag.numerator (Mag.common (ratioMag p1) (ratioMag p2))).natValue = Nat.gcd p1.norm.num p2.norm.num ∧
    (Mag.denominator (Mag.common (ratioMag p1) (ratioMag p2))).natValue = Nat.lcm p1.norm.den p2.norm.den ∧
    (Mag.div (ratioMag p1) (Mag.common (ratioMag p1) (ratioMag p2))).isInteger = true ∧
    (Mag.div (ratioMag p1) (Mag.common (ratioMag p1) (ratioMag p2))).natValue = (ratioDivide p1 (chronoCommonPeriod p1 p2)).num ∧
    (ratioDivide p1 (chronoCommonPeriod p1 p2)).den = 1 ∧
    (Mag.div (ratioMag p2) (Mag.common (ratioMag p1) (ratioMag p2))).isInteger = true ∧
    (Mag.div (ratioMag p2) (Mag.common (ratioMag p1) (ratioMag p2))).natValue = (ratioDivide p2 (chronoCommonPeriod p1 p2)).num ∧
    (ratioDivide p2 (chronoCommonPeriod p1 p2)).den = 1 :=
  have hc := isRatio_common h1 h2
  have hcop := coprime_gcd_lcm (Period.norm_coprime h1) (Period.norm_coprime h2)
  ⟨common_eq_ratioMag h1 h2, chronoCommonPeriod_eq h1 h2, (hc.numerator hcop).isInteger_and_natValue.2, (hc.denominator hcop).isInteger_and_natValue.2,
    common_scale h1 h2⟩

example : Mag.common (ratioMag ⟨1001, 30000⟩) (ratioMag ⟨1, 60⟩) = ratioMag ⟨1, 30000⟩ ∧
    chronoCommonPeriod ⟨1001, 30000⟩ ⟨1, 60⟩ = ⟨1, 30000⟩ := by decide +kernel

/-- A duration is implicitly accepted by a quantity type exactly when its corresponding quantity is.
True by definition: the model defines `durationAccepted` so (quantity.hh:137-141); what it rests on is the
correspondence check of the model against the headers. -/
theorem C17_accept_iff_corresponding (tgtMag : Mag) (tgtRep : Rep) (d : Duration) :
    durationAccepted tgtMag tgtRep d = quantityConvertible tgtMag tgtRep (asQuantity d) := rfl

/-- **C17, acceptance rule.**  For every target `Quantity<Seconds × tp, tr>` and every duration:
a floating target accepts every duration; an integral target accepts exactly the integral-rep
durations whose period is an integer multiple `k` of the target unit with `2147·k ≤ max(tr)`.
`ratioDivide` is `std::ratio_divide<Period, tp>` in lowest terms: `den = 1` says "integer multiple",
`num` is `k`.  Guards finding F2 (`k > max(tr)`): the model follows the fixed code. -/
theorem C17_accept_formula (tp : Period) (tr : Rep) (d : Duration) (htp : tp.Pos) (hdp : d.period.Pos) :
    durationAccepted (ratioMag tp) tr d =
      match tr.intTy? with
      | none => true
      | some t =>
        d.rep.isIntegral && decide ((ratioDivide d.period tp).den = 1) &&
          decide (2147 * ((ratioDivide d.period tp).num : Int) ≤ t.hi) := by
  obtain ⟨hiff, hval⟩ := scaleFactor_spec hdp htp
  have hok := Mag.ok_div (ok_ratioMag hdp) (ok_ratioMag htp)
  unfold durationAccepted quantityConvertible
  rw [asQuantity_mag, show (asQuantity d).rep = d.rep from rfl, permitImplicitFrom_eq _ _ _ _ hok, corePolicy_eq _ _ hok]
  cases tr.intTy? with
  | none => rfl
  | some t =>
    cases hi : (Mag.div (ratioMag d.period) (ratioMag tp)).isInteger with
    | false => simp [mt hiff.2 (by simp [hi])]
    | true => simp [hiff.1 hi, hval hi]

/-- The same rule as an equivalence. -/
theorem C17_accept_iff (tp : Period) (tr : Rep) (d : Duration) (htp : tp.Pos) (hdp : d.period.Pos) :
    durationAccepted (ratioMag tp) tr d = true ↔
      tr.isFloat = true ∨
      (∃ t, tr.intTy? = some t ∧ d.rep.isIntegral = true ∧ (ratioDivide d.period tp).den = 1 ∧
        2147 * ((ratioDivide d.period tp).num : Int) ≤ t.hi) := by
  rw [C17_accept_formula tp tr d htp hdp]
  cases tr <;> simp [Rep.intTy?, Rep.isFloat, Rep.fmt?, and_assoc]

/-- Au never accepts a duration that chrono's own converting constructor refuses; for a floating
target both accept everything. -/
theorem C17_accept_implies_chrono (tp : Period) (tr : Rep) (d : Duration) (htp : tp.Pos) (hdp : d.period.Pos)
    (h : durationAccepted (ratioMag tp) tr d = true) :
    chronoConvertible tr tp d.rep d.period = true := by
  unfold chronoConvertible
  rcases (C17_accept_iff tp tr d htp hdp).1 h with hf | ⟨t, -, hi, hden, -⟩
  · rw [hf, Bool.true_or]
  · have hnf : ∀ r : Rep, r.isIntegral = true → r.isFloat = false := fun r hr => by
      cases r <;> first | rfl | cases hr
    rw [hnf _ hi, hden]
    simp

/-- Non-vacuity / instances: int32 milliseconds accept int32 seconds (k = 1000) but not int32 hours
(3 600 000·2147 > 2³¹); nanoseconds ← hours has k = 3.6·10¹² > max(int32): refused (the
region of F2); the threshold sits exactly between k = 1000225 and k = 1000226. -/
example : durationAccepted (ratioMag ⟨1, 1000⟩) .i32 ⟨.i32, ⟨1, 1⟩, .i 0⟩ = true ∧
    durationAccepted (ratioMag ⟨1, 1000⟩) .i32 ⟨.i32, ⟨3600, 1⟩, .i 0⟩ = false ∧
    durationAccepted (ratioMag ⟨1, 1000000000⟩) .i32 ⟨.i32, ⟨3600, 1⟩, .i 0⟩ = false ∧
    durationAccepted (ratioMag ⟨1, 1⟩) .i32 ⟨.i32, ⟨1000225, 1⟩, .i 0⟩ = true ∧
    durationAccepted (ratioMag ⟨1, 1⟩) .i32 ⟨.i32, ⟨1000226, 1⟩, .i 0⟩ = false := by
  decide +kernel

/-- **C17, mixed operations.**  For every operation `op ∈ {==, !=, <, <=, >, >=, +, -}`, all four
reps on either side, all positive periods whose chrono conversion factors fit `intmax_t`, and all
counts that are values of their rep: whenever chrono's own computation `d₁ op d₂` is clean (no
undefined behaviour, every intermediate finite, no value-changing narrowing) with result `v`, Au's
mixed operation returns exactly `v` — with the Quantity on the left (any spelling of the unit
seconds × Period₁, in particular `as_quantity(d₁)`) or on the right.  The rounding function `R` is
arbitrary; the two facts `RoundingOK R` are needed only when the common rep is floating. -/
theorem C17_mixed_ops_agree (R : Rounding) (op : Op) (d1 d2 : Duration) (nm : Option String)
    (hR : (Rep.common d1.rep d2.rep).isFloat = true → RoundingOK R)
    (h1 : d1.period.Pos) (h2 : d2.period.Pos)
    (hx1 : d1.count.Holds R d1.rep) (hx2 : d2.count.Holds R d2.rep)
    (hc1 : ((ratioDivide d1.period (chronoCommonPeriod d1.period d2.period)).num : Int) ≤ i64hi)
    (hc2 : ((ratioDivide d2.period (chronoCommonPeriod d1.period d2.period)).num : Int) ≤ i64hi)
    (v : OpVal) (hclean : (chronoOp R op d1 d2).Clean v) :
    mixedOpQD R op ⟨d1.rep, ratioMag d1.period, nm, d1.count⟩ d2 = .ok v ∧
    mixedOpQD R op (asQuantity d1) d2 = .ok v ∧
    mixedOpDQ R op d1 ⟨d2.rep, ratioMag d2.period, nm, d2.count⟩ = .ok v ∧
    mixedOpDQ R op d1 (asQuantity d2) = .ok v := by
  -- only magnitude, rep and value of the two quantities matter
  have key := quantityOp_agree R op d1 d2 hR h1 h2 hx1 hx2 hc1 hc2 v hclean
  exact ⟨key _ _ rfl rfl rfl (asQuantity_mag d2) rfl rfl, key _ _ (asQuantity_mag d1) rfl rfl (asQuantity_mag d2) rfl rfl,
    key _ _ (asQuantity_mag d1) rfl rfl rfl rfl rfl, key _ _ (asQuantity_mag d1) rfl rfl (asQuantity_mag d2) rfl rfl⟩

/-- **C17, mixed operations, for the driver's rounding function** (IEEE round-to-nearest-even with
gradual underflow, `rne`): `RoundingOK rne` is `rne_roundingOK` (Lemmas/ChronoRne). -/
theorem C17_mixed_ops_agree_rne (op : Op) (d1 d2 : Duration) (nm : Option String)
    (h1 : d1.period.Pos) (h2 : d2.period.Pos)
    (hx1 : d1.count.Holds rne d1.rep) (hx2 : d2.count.Holds rne d2.rep)
    (hc1 : ((ratioDivide d1.period (chronoCommonPeriod d1.period d2.period)).num : Int) ≤ i64hi)
    (hc2 : ((ratioDivide d2.period (chronoCommonPeriod d1.period d2.period)).num : Int) ≤ i64hi)
    (v : OpVal) (hclean : (chronoOp rne op d1 d2).Clean v) :
    mixedOpQD rne op ⟨d1.rep, ratioMag d1.period, nm, d1.count⟩ d2 = .ok v ∧
    mixedOpQD rne op (asQuantity d1) d2 = .ok v ∧
    mixedOpDQ rne op d1 ⟨d2.rep, ratioMag d2.period, nm, d2.count⟩ = .ok v ∧
    mixedOpDQ rne op d1 (asQuantity d2) = .ok v :=
  C17_mixed_ops_agree rne op d1 d2 nm (fun _ => rne_roundingOK) h1 h2 hx1 hx2 hc1 hc2 v hclean

/-- Non-vacuity with floating reps: `duration<float, ratio<1,60>>{7.5} + Quantity<milli(seconds), int64_t>{3}`:
chrono's computation is clean with result 384 (common rep float, common period 1/3000). -/
example : (chronoOp rne .add ⟨.f32, ⟨1, 60⟩, .f (15 / 2)⟩ ⟨.i64, ⟨1, 1000⟩, .i 3⟩).Clean (.v (.f 384)) ∧
    (Val.f (15 / 2)).Holds rne .f32 ∧
    mixedOpDQ rne .add ⟨.f32, ⟨1, 60⟩, .f (15 / 2)⟩ (asQuantity ⟨.i64, ⟨1, 1000⟩, .i 3⟩) = .ok (.v (.f 384)) := by
  refine ⟨⟨by decide +kernel, by decide +kernel⟩, ⟨Fmt.single, rfl, by decide +kernel⟩, by decide +kernel⟩

/-- Integral reps: no hypothesis about floating point at all. -/
theorem C17_mixed_ops_agree_int (R : Rounding) (op : Op) (d1 d2 : Duration) (nm : Option String)
    (hi1 : d1.rep.isIntegral = true) (hi2 : d2.rep.isIntegral = true)
    (h1 : d1.period.Pos) (h2 : d2.period.Pos)
    (hx1 : d1.count.Holds R d1.rep) (hx2 : d2.count.Holds R d2.rep)
    (hc1 : ((ratioDivide d1.period (chronoCommonPeriod d1.period d2.period)).num : Int) ≤ i64hi)
    (hc2 : ((ratioDivide d2.period (chronoCommonPeriod d1.period d2.period)).num : Int) ≤ i64hi)
    (v : OpVal) (hclean : (chronoOp R op d1 d2).Clean v) :
    mixedOpQD R op (asQuantity d1) d2 = .ok v ∧ mixedOpDQ R op d1 (asQuantity d2) = .ok v := by
  have hR : (Rep.common d1.rep d2.rep).isFloat = true → RoundingOK R := by
    intro h
    cases hr1 : d1.rep <;> cases hr2 : d2.rep <;> simp [hr1, hr2, Rep.isIntegral, Rep.intTy?, Rep.common, Rep.isFloat, Rep.fmt?] at hi1 hi2 h
  obtain ⟨-, hQD, -, hDQ⟩ := C17_mixed_ops_agree R op d1 d2 nm hR h1 h2 hx1 hx2 hc1 hc2 v hclean
  exact ⟨hQD, hDQ⟩

/-- Non-vacuity: `duration<int32_t, ratio<1,60>>{7} + Quantity<milli(seconds), int32_t>{3}` — chrono's
computation is clean with result 359 (common period 1/3000), all hypotheses hold, and the model's
mixed sum is 359. -/
example : (chronoOp rne .add ⟨.i32, ⟨1, 60⟩, .i 7⟩ ⟨.i32, ⟨1, 1000⟩, .i 3⟩).Clean (.v (.i 359)) ∧
    (Val.i 7).Holds rne .i32 ∧
    ((ratioDivide ⟨1, 60⟩ (chronoCommonPeriod ⟨1, 60⟩ ⟨1, 1000⟩)).num : Int) ≤ i64hi ∧
    mixedOpDQ rne .add ⟨.i32, ⟨1, 60⟩, .i 7⟩ (asQuantity ⟨.i32, ⟨1, 1000⟩, .i 3⟩) = .ok (.v (.i 359)) := by
  refine ⟨⟨by decide +kernel, by decide +kernel⟩, ⟨IntTy.i32, rfl, by decide⟩, by decide +kernel, by decide +kernel⟩

/-- The `_full` form: Au's result equals chrono's with no hypothesis at all.  The refuting input meets every
other hypothesis of `C17_mixed_ops_agree`; only cleanness fails. -/
def C17_mixed_ops_unconditional : Prop :=
  ∀ (op : Op) (d1 d2 : Duration), mixedOpQD rne op (asQuantity d1) d2 = (chronoOp rne op d1 d2).val

/-- Cleanness cannot be dropped: with int32 reps chrono multiplies in `intmax_t` and narrows
(implementation-defined wrap-around), Au multiplies in `int32_t` (undefined behaviour).
`duration<int32_t, milli>{2000000000}` vs `duration<int32_t, micro>{7}`. -/
theorem C17_mixed_ops_unconditional_counterexample : ¬ C17_mixed_ops_unconditional := by
  intro h
  have := h .add ⟨.i32, ⟨1, 1000⟩, .i 2000000000⟩ ⟨.i32, ⟨1, 1000000⟩, .i 7⟩
  revert this
  decide +kernel

/-- A mixed operation is well-formed exactly when the overflow-threshold policy admits both
conversions to the common type: for a floating common rep always; for an integral common rep `t`
iff both scale factors `kᵢ` (integers by `C17_common_period`) satisfy `2147·kᵢ ≤ max(t)`.
Guards finding F2 (an int32 Quantity against an int64 duration more than 2³¹ times coarser, e.g.
`Quantity<Nano<Seconds>, int32_t>{} < std::chrono::hours{}`): the model follows the fixed code. -/
theorem C17_mixed_compiles_iff (q : Quantity) (d : Duration) (p1 : Period) (hm : q.mag = ratioMag p1)
    (h1 : p1.Pos) (h2 : d.period.Pos) :
    mixedCompilesQD q d = .ok () ↔
      match (Rep.common q.rep d.rep).intTy? with
      | none => True
      | some t =>
        2147 * ((ratioDivide p1 (chronoCommonPeriod p1 d.period)).num : Int) ≤ t.hi ∧
        2147 * ((ratioDivide d.period (chronoCommonPeriod p1 d.period)).num : Int) ≤ t.hi := by
  obtain ⟨hk1, hn1, -, hk2, hn2, -⟩ := common_scale h1 h2
  have hokc := Mag.ok_common (ok_ratioMag h1) (ok_ratioMag h2)
  unfold mixedCompilesQD mixedCompiles commonQuantity asUnitOnlyOk
  simp only [hm, asQuantity_mag, show (asQuantity d).rep = d.rep from rfl,
    corePolicy_eq _ _ (Mag.ok_div (ok_ratioMag h1) hokc), corePolicy_eq _ _ (Mag.ok_div (ok_ratioMag h2) hokc),
    hk1, hk2, hn1, hn2, Rep.isIntegral]
  cases (Rep.common q.rep d.rep).intTy? with
  | none => simp
  | some t =>
    by_cases ha : 2147 * ((ratioDivide p1 (chronoCommonPeriod p1 d.period)).num : Int) ≤ t.hi <;> simp [ha]

example : mixedCompilesQD ⟨.i32, ratioMag ⟨1, 1000000000⟩, none, .i 0⟩ ⟨.i64, ⟨3600, 1⟩, .i 0⟩ = .ok () ∧
    mixedCompilesQD ⟨.i32, ratioMag ⟨1, 1000000000⟩, none, .i 0⟩ ⟨.i32, ⟨3600, 1⟩, .i 0⟩ ≠ .ok () := by
  decide +kernel

end Au.Chrono
