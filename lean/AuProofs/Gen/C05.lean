/-
  Obligations over data regenerated on every run (tools/p_c05.py → Generated/CastConsts.lean): the
  limits `static_cast<F>(std::numeric_limits<Dest>::lowest()/max())` as g++ and clang++ evaluate
  them are the limits the model's float → anything overflow checker compares against
  (`castLimLo` / `castLimHi`, i.e. `Flt.ofInt` / `Flt.cast` = round-to-nearest-even of the model).
-/
import AuModel.StaticCast
import Generated.CastConsts
namespace Au
open IntTy FltTy

/-- Row layout: see the header of `Generated/CastConsts.lean`. -/
def castConstRowOk (r : Nat × Nat × Bool × Nat × Nat × Int × Int) : Bool :=
  let F : FltTy := ⟨r.1, r.2.1⟩
  let d : ArithTy := if r.2.2.1 then .int ⟨r.2.2.2.1, r.2.2.2.2.1 == 1⟩ else .flt ⟨r.2.2.2.1, r.2.2.2.2.1⟩
  decide (castLimLo F d = .fin ((r.2.2.2.2.2.1 : Int) : Rat)) &&
  decide (castLimHi F d = .fin ((r.2.2.2.2.2.2 : Int) : Rat))

theorem C05_gen_castConsts : Generated.castConsts.all castConstRowOk = true := by
  decide +kernel

/-- The extracted table covers every (floating source, integral destination) pair and the three
narrowing floating pairs — the situations categorised `FLOAT_TO_ANYTHING`. -/
theorem C05_gen_castConsts_complete :
    (∀ F ∈ FltTy.all, ∀ I ∈ IntTy.all,
      Generated.castConsts.any (fun r => r.1 == F.prec && r.2.1 == F.emax && r.2.2.1 &&
        r.2.2.2.1 == I.bits && (r.2.2.2.2.1 == 1) == I.signed) = true) ∧
    (∀ p ∈ [(f64, f32), (f80, f32), (f80, f64)],
      Generated.castConsts.any (fun r => r.1 == p.1.prec && r.2.1 == p.1.emax && !r.2.2.1 &&
        r.2.2.2.1 == p.2.prec && r.2.2.2.2.1 == p.2.emax) = true) := by
  decide +kernel

end Au
