import AuProofs.C13
import Generated.Classes
namespace Au
open Au.C13 Au.Generated.Classes

/-! Data obligations of C13 over the class descriptors regenerated from /repo on every run
(`Generated.Classes`, produced by tools/c13_extract.py from the clang AST).  They stop compiling
when `au::Quantity` / `au::QuantityPoint` gain a data member, a base, a virtual function, a
user-provided copy/move/destructor, or lose the zero-initialisation of their member. -/

/-- `au::Quantity` has the shape required by `C13_layout_quantity`. -/
theorem C13_gen_quantity_shape : isRepWrapper quantity = true := by decide

/-- `au::Quantity(Zero)` stores zero. -/
theorem C13_gen_quantity_zero_ctor : zeroCtorZeroes quantity = true := by decide

/-- `au::QuantityPoint` wraps exactly one `Quantity<Unit, Rep>`, found in the environment. -/
theorem C13_gen_point_shape :
    env.find "Quantity" = some quantity ∧ isWrapperOf quantityPoint "Quantity" = true := by decide

/-- **C13 (layout) for the classes as they are in /repo**: the two general theorems at the regenerated
descriptors, for each of the 11 arithmetic reps. -/
theorem C13_layout (R : RepTy) (hR : R ∈ RepTy.all) :
    classFacts env quantity R = transparentFacts R ∧
    classFacts env quantityPoint R = transparentFacts R :=
  have ⟨hfind, hpoint⟩ := C13_gen_point_shape
  ⟨C13_layout_quantity env quantity C13_gen_quantity_shape R hR,
   C13_layout_point env quantityPoint quantity "Quantity" hfind
     C13_gen_quantity_shape C13_gen_quantity_zero_ctor hpoint R hR⟩

/-- The same facts obtained by plain evaluation of the model on the descriptors (independent of the
general theorems; guards against a premise that is too weak). -/
theorem C13_gen_facts_eval : ∀ R ∈ RepTy.all,
    classFacts env quantity R = transparentFacts R ∧
    classFacts env quantityPoint R = transparentFacts R := by decide

/-- **Default construction yields `R{}`**, the clause on its own: `T t;` is the weakest form (`T{}` and
`T()` zero-fill first or run the same constructor).  Reading the object back through `.in(unit)`
returns those bits (`C13_roundtrip`). -/
theorem C13_default_construction (R : RepTy) (hR : R ∈ RepTy.all) :
    (classFacts env quantity R).dflt = Content.zero ∧ (classFacts env quantityPoint R).dflt = Content.zero := by
  have h := C13_layout R hR
  exact ⟨by rw [h.1]; rfl, by rw [h.2]; rfl⟩

/-- Non-vacuity / sensitivity: without the default member initialiser the same evaluation says
`indeterminate` (so `zero` above is a fact about the extracted source, not about the evaluator). -/
example : (classFacts env { quantity with fields := [⟨"value_", .rep, .priv, .absent⟩] } (.flt .f64)).dflt
    = Content.indeterminate := by decide

end Au
