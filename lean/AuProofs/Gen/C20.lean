/-
  C20 — obligations over the regenerated include graph of the repository
  (lean/Generated/IncludeGraph.lean, rewritten by tools/extract_c20.py on every run).
  If a header gains a dangling, duplicated or cyclic project include these stop compiling.
-/
import Generated.IncludeGraph
import AuProofs.C20
namespace Au
open SingleFile Generated

/-- every `#include "au/…"` in the tree names an existing header -/
theorem Gen_C20_targets : targetsExist includeGraph = true := by decide +kernel

/-- no header has the same project include twice -/
theorem Gen_C20_dupfree : dupFree includeGraph = true := by decide +kernel

/-- the extraction's numbering is topological: the real include graph is acyclic -/
theorem Gen_C20_acyclic : rankedById includeGraph = true := by decide +kernel

/-- the keys of the graph are distinct (they are 0, 1, 2, … in listing order) -/
theorem Gen_C20_keys : keysDistinct includeGraph = true := by
  have : includeGraph.map (·.1) = List.range includeGraph.length := by decide +kernel
  simp [keysDistinct, this, List.nodup_range]

theorem Gen_C20_wellFormed : C20_WellFormed includeGraph :=
  ⟨targetsExist_of_check Gen_C20_targets, incNodup_of_check Gen_C20_dupfree,
   noCycle_of_rank (rankAcyclic_of_check Gen_C20_acyclic)⟩

/-- **The theorem on the real tree**: for EVERY selection of existing headers (every unit/constant
selection × {io, noio} × any extra main files, in any order, with repetitions) the modelled script
terminates and emits exactly the include closure, once each, includes first. -/
theorem Gen_C20_real_tree (names : List File)
    (hN : ∀ s, s ∈ names → (includeGraph.lookup s).isSome = true) :
    ∃ order, emitOrder includeGraph names = .done order ∧ C20_Spec includeGraph names order :=
  C20_emit_spec includeGraph Gen_C20_wellFormed names hN

end Au
