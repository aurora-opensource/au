import Generated.OrderTable
import AuProofs.Lemmas.OrderTable

/-! Per-run obligations of C02 over regenerated data: the library's `InOrderFor<UnitProduct,·,·>`,
as extracted from the compiler for this run's unit sample, is induced by an injective rank —
hence a strict total order on the sample (`orderTable_strictTotal`). -/
namespace Au

theorem orderTable_induced : tableInducedBy Generated.orderN Generated.orderRanks Generated.orderRows = true := by
  decide +kernel

theorem orderTable_ranks_distinct : ranksDistinct Generated.orderN Generated.orderRanks = true := by
  decide +kernel

theorem orderTable_strictTotal :
    (∀ i, i < Generated.orderN → tableLt Generated.orderRows i i = false) ∧
    (∀ i j k, i < Generated.orderN → j < Generated.orderN → k < Generated.orderN →
      tableLt Generated.orderRows i j = true → tableLt Generated.orderRows j k = true →
      tableLt Generated.orderRows i k = true) ∧
    (∀ i j, i < Generated.orderN → j < Generated.orderN → tableLt Generated.orderRows i j = false →
      tableLt Generated.orderRows j i = false → i = j) :=
  table_strictTotal _ _ _ orderTable_induced orderTable_ranks_distinct

end Au
