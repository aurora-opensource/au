/-
  AuProofs.C09 — QuantityPoint affine semantics.

  A point unit is `⟨scale, oc, ou⟩` (`AuModel.Point`): positions are `position u v = v·scale + oc·ou ∈ ℚ`.
  For the truncating explicit conversion "intermediates representable" is spelled out as range hypotheses on
  the exact integers the algorithm of `in<NewRep>(unit)` passes through.  The end-to-end theorems are stated for a
  clean evaluation (a value, no `wrapped` / `narrowed` flag); the common point unit divides both units and both
  non-zero origin displacements, so nothing truncates there.
-/
import AuProofs.Lemmas.Point
import AuProofs.C08
namespace Au
open IntTy Mixed Point URat

def Point.PtUnit.Pos (u : PtUnit) : Prop := u.scale.Pos ∧ u.ou.Pos

/-- The unit's origin, in base units. -/
def originOf (u : PtUnit) : Rat := (u.oc : Rat) * u.ou.scale

/-- Absolute position of the point `v` of unit `u`. -/
def position (u : PtUnit) (v : Int) : Rat := (v : Rat) * u.scale.scale + originOf u

theorem originOf_eq_qval (u : PtUnit) : originOf u = qval u.ou u.oc := rfl

/-- `q` is the rational `x` truncated toward zero. -/
def IsTruncOf (q : Int) (x : Rat) : Prop :=
  ∃ (num : Int) (den : Nat), 0 < den ∧ q = Int.tdiv num den ∧ (num : Rat) / (den : Rat) = x

theorem originsEqual_ok (u u' : PtUnit) (hu : u.ou.Pos) (hu' : u'.ou.Pos)
    (hoc : originRep.inRange u.oc) (hoc' : originRep.inRange u'.oc)
    (hfo : FitsCommon originRep originRep (URat.ratioL u.ou u'.ou) (URat.ratioR u.ou u'.ou) u.oc u'.oc) :
    ∃ b, originsEqual u u' = ⟨.ok b, false, false⟩ ∧ (b = true ↔ originOf u = originOf u') :=
  C08_compare_exact originRep originRep (by decide) (by decide) rfl u.ou u'.ou hu hu' u.oc u'.oc hoc hoc' hfo .eq

theorem originsEqual_of_val (u1 u2 : PtUnit) (h1 : u1.ou.Pos) (h2 : u2.ou.Pos) (r1 : originRep.inRange u1.oc) (r2 : originRep.inRange u2.oc)
    (h : (originsEqual u1 u2).val = .ok true) : originOf u1 = originOf u2 := by
  have he := of_decide_eq_true (cmp_i32_of_val .eq _ _ u1.oc u2.oc true r1 r2 h).symm
  rw [originOf_eq_qval, originOf_eq_qval, qval_left u1.ou u2.ou h1 h2, qval_right u1.ou u2.ou h1 h2, he]

theorem dispValue_of_val (u1 u2 : PtUnit) (h1 : u1.ou.Pos) (h2 : u2.ou.Pos) (r1 : originRep.inRange u1.oc) (r2 : originRep.inRange u2.oc)
    (dv : Int) (h : (dispValue u1 u2).val = .ok dv) :
    (dv : Rat) * (dispUnit u1 u2).scale = originOf u2 - originOf u1 := by
  have := sub_i32_of_val _ _ u2.oc u1.oc dv r2 r1 h
  have e : (dispUnit u1 u2).scale = commonScale u2.ou u1.ou := rfl
  rw [e, originOf_eq_qval, originOf_eq_qval, qval_left u2.ou u1.ou h2 h1, qval_right u2.ou u1.ou h2 h1, this,
    Rat.intCast_sub]
  -- (A − B)·g = A·g − B·g
  grind

/-- The frame of a conversion across displaced origins: with `ud` the unit of the displacement from `a` to `b` and
`CU` the common unit of a scale `s` and of `ud`, one has `s = kA·CU`, `ud = kD·CU`, and `dv·ud` is the displacement. -/
theorem disp_frame (s : URat) (hs : s.Pos) (a b : PtUnit) (ha : a.Pos) (hb : b.Pos)
    (ra : originRep.inRange a.oc) (rb : originRep.inRange b.oc) (dv : Int) (h : (dispValue a b).val = .ok dv) :
    (URat.common s (dispUnit a b)).Pos ∧
    s.scale = (ratioL s (dispUnit a b) : Rat) * (URat.common s (dispUnit a b)).scale ∧
    (dispUnit a b).scale = (ratioR s (dispUnit a b) : Rat) * (URat.common s (dispUnit a b)).scale ∧
    (dv : Rat) * (dispUnit a b).scale = originOf b - originOf a :=
  have hud := dispUnit_pos a b ha.2 hb.2
  ⟨URat.common_pos _ _ hs hud, URat.scale_eq_ratioL s _ hs hud, URat.scale_eq_ratioR s _ hs hud,
    dispValue_of_val a b ha.2 hb.2 ra rb dv h⟩

theorem originsEqual_same (a b : PtUnit) (ha : a.ou.Pos) (hoc : b.oc = a.oc) (hou : b.ou = a.ou) (ho : originRep.inRange a.oc) :
    (originsEqual a b).val = .ok true := by
  obtain ⟨k1, k2⟩ := ratioL_ratioR_self a.ou ha
  unfold originsEqual
  rw [hoc, hou, k1, k2, cmp_ok .eq originRep originRep (by decide) (by decide) rfl 1 1 a.oc a.oc ho ho
    ⟨by simpa [common_self] using ho, by simpa [common_self] using ho⟩]
  simp [CmpOp.eval]

theorem isTruncOf_ratio (s u' : URat) (hs : s.Pos) (hu' : u'.Pos) (Y : Int) :
    IsTruncOf (Int.tdiv (Y * (Point.ratio s u').1) (Point.ratio s u').2) ((Y : Rat) * s.scale / u'.scale) := by
  obtain ⟨hspec, _, hDpos⟩ := ratio_spec s u' hs hu'
  refine ⟨_, _, hDpos, rfl, ?_⟩
  have hs' := Rat.ne_of_gt (URat.scale_pos u' hu')
  have hD := rat_natCast_ne_zero hDpos
  rw [Rat.intCast_mul, Rat.intCast_natCast]
  -- Y·N/D = Y·s/u': `hspec` is N·u' = D·s
  grind

/-- **A clean `p.in<NewRep>(u')`, whatever the units.**  It is `Y·N / D` truncated, where `Y` counts the position from the
origin of `u'` in a unit `s`, `N/D = s/u'`, and `s` is divided by whatever divides `u` and the unit of a non-`ZERO`
displacement. -/
theorem inExplicit_of_clean (r n : IntTy) (hr : r ∈ IntTy.all) (hn : n ∈ IntTy.all) (u u' : PtUnit) (hu : u.Pos) (hu' : u'.Pos)
    (ho : originRep.inRange u.oc) (ho' : originRep.inRange u'.oc) (v x : Int) (h : inExplicit r n u u' v = ⟨.ok x, false, false⟩) :
    ∃ (s : URat) (Y : Int), s.Pos ∧ (Y : Rat) * s.scale + originOf u' = position u v ∧
      x = Int.tdiv (Y * (Point.ratio s u'.scale).1) (Point.ratio s u'.scale).2 ∧
      ∀ t, Divides t u.scale → ((originsEqual u u').val ≠ .ok true → Divides t (dispUnit u u')) → Divides t s := by
  have hcr := intermediateRep_mem r hr n hn
  have hcrp := promote_mem _ hcr
  have hc2 := common_mem _ _ hcrp hn
  unfold inExplicit at h
  cases heq : (originsEqual u u').val with
  | ub w => simp [heq, ubRes_ne_clean, andThen_clean_iff] at h
  | ok b =>
    cases b with
    | true =>
      simp only [heq, andThen_clean_iff, repCast_clean_iff r _ (common_mem _ _ hr hcr) hcr, liftStep_clean_iff,
        subIn_clean_iff _ hcrp, asRepFrac_clean_iff _ n hc2 hn _ _ (ratio_den_pos _ _ hu.1 hu'.1), Int.sub_zero] at h
      -- stages: `rep_cast` of the value; `subIn … 0`; `asRepFrac`.  Each `rfl` (at `z = v`) eliminates the older
      -- variable `v`: the witness `v'` is bound where the last of them leaves it
      obtain ⟨_, ⟨_, _, rfl⟩, v', ⟨_, rfl⟩, _, _, _, _, rfl⟩ := h
      exact ⟨u.scale, v', hu.1, by rw [← originsEqual_of_val u u' hu.2 hu'.2 ho ho' heq]; rfl, rfl, fun _ h _ => h⟩
    | false =>
      cases hdv : (dispValue u u').val with
      | ub w => simp [heq, hdv, ubRes_ne_clean, andThen_clean_iff] at h
      | ok dv =>
        obtain ⟨hCU, e1, e2, hdisp⟩ := disp_frame u.scale hu.1 u u' hu hu' ho ho' dv hdv
        simp only [heq, hdv, andThen_clean_iff, repCast_clean_iff r _ (common_mem _ _ hr hcr) hcr,
          repCast_clean_iff originRep _ (common_mem _ _ (by decide) hcr) hcr, liftRes_clean_iff,
          sub_clean_iff _ _ hcr hcr, common_self,
          castToCommon_clean_iff _ _ (common_mem _ _ hcr hcr) hcr,
          asRepFrac_clean_iff _ n hc2 hn _ _ (ratio_den_pos _ _ hCU hu'.1)] at h
        -- stages: `rep_cast` of the value; `rep_cast` of the displacement; the subtraction (two `castToCommon`, then
        -- `subIn`); `asRepFrac`.  `v'`, `dv'`: as above, the names that survive `rfl`
        obtain ⟨v', ⟨_, _, rfl⟩, dv', ⟨_, _, rfl⟩, _, ⟨_, _, ⟨_, _, _, rfl⟩, ⟨_, _, _, rfl⟩, _, rfl⟩, _, _, _, _, rfl⟩ := h
        exact ⟨URat.common u.scale (dispUnit u u'),
          v' * (ratioL u.scale (dispUnit u u') : Nat) - dv' * (ratioR u.scale (dispUnit u u') : Nat),
          hCU, affine_sub e1 e2 hdisp, rfl, fun t h1 h2 => URat.dvd_common _ _ _ h1 (h2 (by simp))⟩

theorem inExplicit_isTruncOf (r n : IntTy) (hr : r ∈ IntTy.all) (hn : n ∈ IntTy.all) (u u' : PtUnit) (hu : u.Pos) (hu' : u'.Pos)
    (ho : originRep.inRange u.oc) (ho' : originRep.inRange u'.oc) (v x : Int) (h : inExplicit r n u u' v = ⟨.ok x, false, false⟩) :
    IsTruncOf x ((position u v - originOf u') / u'.scale.scale) := by
  obtain ⟨s, Y, hs, hY, rfl, -⟩ := inExplicit_of_clean r n hr hn u u' hu hu' ho ho' v x h
  rw [← hY, Rat.add_sub_cancel]
  exact isTruncOf_ratio s u'.scale hs hu'.1 Y

/-- **C09, explicit conversion, equal origins.**  `p.in<NewRep>(u')` when `u` and `u'` have the same origin:
if the value fits `CalcRep`, the product by the numerator of `u/u'` fits the promoted working type and the
quotient fits the working type and `NewRep`, the result is `trunc((v·u + o − o')/u')` (= `trunc(v·u/u')`),
with no undefined behaviour, wrap-around or narrowing. -/
theorem C09_convert_exact_same_origin (r n : IntTy) (hr : r ∈ IntTy.all) (hn : n ∈ IntTy.all)
    (u u' : PtUnit) (hu : u.Pos) (hu' : u'.Pos) (v : Int)
    (hoc : originRep.inRange u.oc) (hoc' : originRep.inRange u'.oc)
    (hfo : FitsCommon originRep originRep (URat.ratioL u.ou u'.ou) (URat.ratioR u.ou u'.ou) u.oc u'.oc)
    (heq : originOf u = originOf u')
    (h1 : (IntTy.common r (intermediateRep r n)).inRange v) (h2 : (intermediateRep r n).inRange v)
    (h3 : (IntTy.common (intermediateRep r n).promote n).inRange v)
    (h4 : (IntTy.common (intermediateRep r n).promote n).promote.inRange (v * (Point.ratio u.scale u'.scale).1))
    (h5 : (IntTy.common (intermediateRep r n).promote n).inRange
      (Int.tdiv (v * (Point.ratio u.scale u'.scale).1) (Point.ratio u.scale u'.scale).2))
    (h6 : n.inRange (Int.tdiv (v * (Point.ratio u.scale u'.scale).1) (Point.ratio u.scale u'.scale).2)) :
    inExplicit r n u u' v =
      ⟨.ok (Int.tdiv (v * (Point.ratio u.scale u'.scale).1) (Point.ratio u.scale u'.scale).2), false, false⟩ ∧
    IsTruncOf (Int.tdiv (v * (Point.ratio u.scale u'.scale).1) (Point.ratio u.scale u'.scale).2)
      ((position u v - originOf u') / u'.scale.scale) := by
  have hcr := intermediateRep_mem r hr n hn
  have hcrp := promote_mem _ hcr
  obtain ⟨b, horig, hb⟩ := originsEqual_ok u u' hu.2 hu'.2 hoc hoc' hfo
  obtain rfl := hb.2 heq
  suffices hev : inExplicit r n u u' v = ⟨.ok _, false, false⟩ from
    ⟨hev, inExplicit_isTruncOf r n hr hn u u' hu hu' hoc hoc' v _ hev⟩
  simp only [inExplicit, horig, andThen_clean_iff, repCast_clean_iff r _ (common_mem _ _ hr hcr) hcr, liftStep_clean_iff,
    subIn_clean_iff _ hcrp, asRepFrac_clean_iff _ n (common_mem _ _ hcrp hn) hn _ _ (ratio_den_pos _ _ hu.1 hu'.1), Int.sub_zero]
  exact ⟨v, ⟨h1, h2, rfl⟩, v, ⟨promote_inRange _ hcr _ h2, rfl⟩, h3, h4, h5, h6, rfl⟩

/-- Non-vacuity: 2500 [1/1000, origin 0] (int32) → unit [1, origin 0] in int32 = 2 (2.5 truncated). -/
example : inExplicit i32 i32 ⟨⟨1, 1000⟩, 0, ⟨1, 1000⟩⟩ ⟨⟨1, 1⟩, 0, ⟨1, 1000⟩⟩ 2500 = ⟨.ok 2, false, false⟩ := by
  decide

/-- **C09, explicit conversion, displaced origins.**  With `dv = origin(u') − origin(u)` counted in the
common unit `ud` of the two origins' units (a valid `int` constant), `kA`, `kD` the ratios of `u` and `ud`
to their common unit `CU`, `Y = v·kA − dv·kD` and `N/D = CU/u'`: if `v`, `dv`, `v·kA`, `dv·kD` fit `CalcRep`,
`Y` fits its promotion and the working type, `Y·N` fits the promoted working type and the quotient fits the
working type and `NewRep`, then `p.in<NewRep>(u') = trunc((v·u + o − o')/u')` exactly, without undefined
behaviour, wrap-around or narrowing. -/
theorem C09_convert_exact_displaced (r n : IntTy) (hr : r ∈ IntTy.all) (hn : n ∈ IntTy.all)
    (u u' : PtUnit) (hu : u.Pos) (hu' : u'.Pos) (v : Int)
    (hoc : originRep.inRange u.oc) (hoc' : originRep.inRange u'.oc)
    (hfo : FitsCommon originRep originRep (URat.ratioL u.ou u'.ou) (URat.ratioR u.ou u'.ou) u.oc u'.oc)
    (hne : originOf u ≠ originOf u')
    (hfd : FitsCommon originRep originRep (URat.ratioL u'.ou u.ou) (URat.ratioR u'.ou u.ou) u'.oc u.oc)
    (hdd : DiffFits originRep originRep (URat.ratioL u'.ou u.ou) (URat.ratioR u'.ou u.ou) u'.oc u.oc)
    (dv : Int) (hdv : dv = u'.oc * (URat.ratioL u'.ou u.ou : Nat) - u.oc * (URat.ratioR u'.ou u.ou : Nat))
    (kA kD : Nat) (hkA : kA = URat.ratioL u.scale (dispUnit u u')) (hkD : kD = URat.ratioR u.scale (dispUnit u u'))
    (N D : Nat) (hN : N = (Point.ratio (URat.common u.scale (dispUnit u u')) u'.scale).1)
    (hD : D = (Point.ratio (URat.common u.scale (dispUnit u u')) u'.scale).2)
    (Y : Int) (hY : Y = v * kA - dv * kD)
    (h1 : (IntTy.common r (intermediateRep r n)).inRange v) (h2 : (intermediateRep r n).inRange v)
    (g1 : (IntTy.common originRep (intermediateRep r n)).inRange dv) (g2 : (intermediateRep r n).inRange dv)
    (hfc : FitsCommon (intermediateRep r n) (intermediateRep r n) kA kD v dv)
    (hdf : DiffFits (intermediateRep r n) (intermediateRep r n) kA kD v dv)
    (h3 : (IntTy.common (intermediateRep r n).promote n).inRange Y)
    (h4 : (IntTy.common (intermediateRep r n).promote n).promote.inRange (Y * N))
    (h5 : (IntTy.common (intermediateRep r n).promote n).inRange (Int.tdiv (Y * N) D))
    (h6 : n.inRange (Int.tdiv (Y * N) D)) :
    inExplicit r n u u' v = ⟨.ok (Int.tdiv (Y * N) D), false, false⟩ ∧
    IsTruncOf (Int.tdiv (Y * N) D) ((position u v - originOf u') / u'.scale.scale) := by
  subst hdv hkA hkD hN hD hY
  have hcr := intermediateRep_mem r hr n hn
  have hcrp := promote_mem _ hcr
  obtain ⟨b, horig, hb⟩ := originsEqual_ok u u' hu.2 hu'.2 hoc hoc' hfo
  obtain rfl : b = false := Bool.eq_false_iff.2 fun h => hne (hb.1 h)
  have hdisp : dispValue u u' = ⟨.ok _, false, false⟩ :=
    sub_ok originRep originRep (by decide) (by decide) rfl _ _ u'.oc u.oc hoc' hoc hfd hdd
  have hcu := URat.common_pos _ _ hu.1 (dispUnit_pos u u' hu.2 hu'.2)
  suffices hev : inExplicit r n u u' v = ⟨.ok _, false, false⟩ from
    ⟨hev, inExplicit_isTruncOf r n hr hn u u' hu hu' hoc hoc' v _ hev⟩
  simp only [inExplicit, horig, hdisp, andThen_clean_iff, repCast_clean_iff r _ (common_mem _ _ hr hcr) hcr,
    repCast_clean_iff originRep _ (common_mem _ _ (by decide) hcr) hcr, liftRes_clean_iff,
    asRepFrac_clean_iff _ n (common_mem _ _ hcrp hn) hn _ _ (ratio_den_pos _ _ hcu hu'.1)]
  exact ⟨v, ⟨h1, h2, rfl⟩, _, ⟨g1, g2, rfl⟩, _, sub_ok _ _ hcr hcr rfl _ _ v _ h2 g2 hfc hdf, h3, h4, h5, h6, rfl⟩

/-- Non-vacuity: 20 °C (int32, [1, origin 273150·(1/1000)]) → Fahrenheit-like [5/9, origin 459670·(1/1800)] in int64 = 68. -/
example : inExplicit i32 i64 ⟨⟨1, 1⟩, 273150, ⟨1, 1000⟩⟩ ⟨⟨5, 9⟩, 459670, ⟨1, 1800⟩⟩ 20 = ⟨.ok 68, false, false⟩ := by
  decide

/-- `eval_iff_rel` with the same offset `c` on both sides: counts of a common point unit compare like the positions. -/
theorem rel_shift (op : CmpOp) (a b g c : Rat) (x y : Int) (hg : 0 < g)
    (ha : (x : Rat) * g + c = a) (hb : (y : Rat) * g + c = b) : op.eval x y = true ↔ op.rel a b := by
  rw [eval_iff_rel op x y g hg, ← ha, ← hb]
  cases op <;> simp only [CmpOp.rel] <;> grind

/-- **C09, ordering.**  Whenever `using_common_point_unit` delivers both operands as exact counts `x`, `y` of a
common point unit (scale `cs > 0`, origin `co`), each of the six comparisons of the points is the corresponding
comparison of the absolute positions. -/
theorem C09_order (r1 r2 : IntTy) (u1 u2 : PtUnit) (v1 v2 x y : Int) (cs co : Rat) (hcs : 0 < cs)
    (hp : (commonPointPair r1 r2 u1 u2 v1 v2).val = .ok (x, y))
    (hx : (x : Rat) * cs + co = position u1 v1) (hy : (y : Rat) * cs + co = position u2 v2) (op : CmpOp) :
    ∃ b : Bool, (cmpPoints op r1 r2 u1 u2 v1 v2).val = .ok b ∧
      (b = true ↔ op.rel (position u1 v1) (position u2 v2)) := by
  refine ⟨op.eval x y, ?_, rel_shift op _ _ cs co x y hcs hx hy⟩
  unfold cmpPoints
  dsimp only
  rw [hp]

set_option linter.unusedVariables false in -- `hs`: only that the common rep is one of the eight is used
/-- **C09, point − point.**  Under the same premise, if the difference of the counts fits the common rep (the rep
of `p1 − p2`), `p1 − p2` is the exact difference of the absolute positions, in units of the common point unit. -/
theorem C09_diff (r1 r2 : IntTy) (h1 : r1 ∈ IntTy.all) (h2 : r2 ∈ IntTy.all) (hs : r1.signed = r2.signed)
    (u1 u2 : PtUnit) (v1 v2 x y : Int) (cs co : Rat)
    (hp : (commonPointPair r1 r2 u1 u2 v1 v2).val = .ok (x, y))
    (hx : (x : Rat) * cs + co = position u1 v1) (hy : (y : Rat) * cs + co = position u2 v2)
    (hfit : (IntTy.common r1 r2).inRange (x - y)) :
    (subPoints r1 r2 u1 u2 v1 v2).val = .ok (x - y) ∧
      ((x - y : Int) : Rat) * cs = position u1 v1 - position u2 v2 := by
  have hc := common_mem r1 r2 h1 h2
  have hpm := promote_mem _ hc
  have hfp := promote_inRange _ hc _ hfit
  have e := common_promote _ hc
  -- the difference is formed in the promoted common rep and converted back
  have hstep : (andThen (liftStep (subIn (IntTy.common r1 r2).promote x y)) fun z =>
      repCast (IntTy.common r1 r2).promote (IntTy.common r1 r2) z) = ⟨.ok (x - y), false, false⟩ :=
    (andThen_clean_iff _ _ _).2 ⟨_, (liftStep_clean_iff _ _).2 ((subIn_clean_iff _ hpm _ _ _).2 ⟨hfp, rfl⟩),
      repCast_ok _ _ (common_mem _ _ hpm hc) hc _ (e.symm ▸ hfp) hfit⟩
  constructor
  · simp only [subPoints, hp, hstep]
  · rw [← hx, ← hy, Rat.intCast_sub]
    -- (x − y)·cs = (x·cs + co) − (y·cs + co)
    grind

/-- **C09, `<=>` on points.**  Under the same premise, with both counts in the range of the common rep, `p1 <=> p2`
orders the points by absolute position and agrees with each of the six comparison operators (the model follows the
fixed code, which converts through the common rep like they do: finding F17). -/
theorem C09_spaceship (r1 r2 : IntTy) (h1 : r1 ∈ IntTy.all) (h2 : r2 ∈ IntTy.all)
    (u1 u2 : PtUnit) (v1 v2 x y : Int) (cs co : Rat) (hcs : 0 < cs)
    (hp : (commonPointPair r1 r2 u1 u2 v1 v2).val = .ok (x, y))
    (hx : (x : Rat) * cs + co = position u1 v1) (hy : (y : Rat) * cs + co = position u2 v2)
    (hxr : (IntTy.common r1 r2).inRange x) (hyr : (IntTy.common r1 r2).inRange y) :
    (spaceshipPoints r1 r2 u1 u2 v1 v2).val = .ok (compare x y) ∧
    (compare x y = .lt ↔ position u1 v1 < position u2 v2) ∧
    (compare x y = .eq ↔ position u1 v1 = position u2 v2) ∧
    (compare x y = .gt ↔ position u2 v2 < position u1 v1) ∧
    ∀ op, (cmpPoints op r1 r2 u1 u2 v1 v2).val = .ok (op.ofOrdering (compare x y)) := by
  have hc := common_mem r1 r2 h1 h2
  have hpm := promote_mem _ hc
  have w1 := wrap_of_inRange _ hpm _ (promote_inRange _ hc _ hxr)
  have w2 := wrap_of_inRange _ hpm _ (promote_inRange _ hc _ hyr)
  have hrel := fun op => rel_shift op _ _ cs co x y hcs hx hy
  refine ⟨?_, ?_, ?_, ?_, fun op => ?_⟩
  · simp only [spaceshipPoints, hp, uac_self, w1, w2]
  · exact Int.compare_eq_lt.trans (by simpa [CmpOp.eval, CmpOp.rel] using hrel .lt)
  · exact Int.compare_eq_eq.trans (by simpa [CmpOp.eval, CmpOp.rel] using hrel .eq)
  · exact Int.compare_eq_gt.trans (by simpa [CmpOp.eval, CmpOp.rel] using hrel .gt)
  · simp only [cmpPoints, hp, eval_eq_ofOrdering]

/-- Guards finding F17 on points (F11 in the theorem's name is the number the finding had first; the model follows
the fixed code): int16 −7705 [1/1000, origin 0] vs int32 −13 [5/9, origin 0]: `<=>` is `less` like `<`. -/
theorem C09_F11_fixed_spaceship :
    (spaceshipPoints i16 i32 ⟨⟨1, 1000⟩, 0, ⟨1, 1000⟩⟩ ⟨⟨5, 9⟩, 0, ⟨1, 1800⟩⟩ (-7705) (-13)).val = .ok .lt ∧
    (cmpPoints .lt i16 i32 ⟨⟨1, 1000⟩, 0, ⟨1, 1000⟩⟩ ⟨⟨5, 9⟩, 0, ⟨1, 1800⟩⟩ (-7705) (-13)).val = .ok true := by
  decide

/-- Non-vacuity of the premise: 20 [1, 273150·(1/1000)] vs 68 [5/9, 459670·(1/1800)] are delivered as the counts
(340000, 340000) of the common point unit 1/9000 with the Fahrenheit-like origin: equal positions. -/
example : (commonPointPair i32 i32 ⟨⟨1, 1⟩, 273150, ⟨1, 1000⟩⟩ ⟨⟨5, 9⟩, 459670, ⟨1, 1800⟩⟩ 20 68).val = .ok (340000, 340000) := by
  decide

/-- **C09, `p.in<NewRep>(u')` / `as<NewRep>` / `coerce_in` (explicit rep), non-truncating case.**  Under the divisibility
hypotheses of `C09_in_exact`, with the displacement taken from `u` to `u'`, a clean explicit conversion is the same
exact affine map.  (The truncating case is `C09_convert_exact_same_origin` / `C09_convert_exact_displaced`.) -/
theorem C09_in_explicit_exact (r n : IntTy) (hr : r ∈ IntTy.all) (hn : n ∈ IntTy.all) (u u' : PtUnit) (hu : u.Pos) (hu' : u'.Pos)
    (ho : originRep.inRange u.oc) (ho' : originRep.inRange u'.oc)
    (hds : Divides u'.scale u.scale)
    (hdd : (originsEqual u u').val ≠ .ok true → Divides u'.scale (dispUnit u u'))
    (v x : Int) (h : inExplicit r n u u' v = ⟨.ok x, false, false⟩) :
    (x : Rat) * u'.scale.scale + originOf u' = position u v := by
  obtain ⟨s, Y, hs, hY, rfl, hdiv⟩ := inExplicit_of_clean r n hr hn u u' hu hu' ho ho' v x h
  obtain ⟨N, hrat, hN⟩ := ratio_of_divides u'.scale s hu'.1 hs (hdiv _ hds hdd)
  rw [hrat, ← hY]
  simp only [Int.natCast_one, Int.tdiv_one]
  exact affine_same hN

/-- Non-vacuity: 20 [1, 273150·(1/1000)] int16 → int64 in the unit [1/9000, origin 0]. -/
example : inExplicit i16 i64 ⟨⟨1, 1⟩, 273150, ⟨1, 1000⟩⟩ ⟨⟨1, 9000⟩, 0, ⟨1, 1000⟩⟩ 20 = ⟨.ok 2638350, false, false⟩ := by decide

/-- `rep_cast<C>(point)` returns the stored value whenever it is clean. -/
theorem repCastPoint_of_clean (r c : IntTy) (hr : r ∈ IntTy.all) (hc : c ∈ IntTy.all) (u : PtUnit) (hu : u.Pos)
    (ho : originRep.inRange u.oc) (v z : Int) (h : repCastPoint r c u v = ⟨.ok z, false, false⟩) : z = v := by
  have hxv := C09_in_explicit_exact r c hr hc u u hu hu ho ho (Divides.refl _)
    (fun hne => absurd (originsEqual_same u u hu.2 rfl rfl ho) hne) v z h
  unfold position at hxv
  -- `hxv` is z·u + o = v·u + o
  exact (rat_scale_eq z v _ (URat.scale_pos _ hu.1)).1 (by grind)

/-- **C09, `p.in(u')` / `p.as(u')` (implicit rep).**  When the target unit divides the source unit and (unless the two
origins are equal) the unit of the origin displacement, a clean conversion is the exact affine map — no truncation:
`x · u' + origin(u') = v · u + origin(u)`. -/
theorem C09_in_exact (r : IntTy) (hr : r ∈ IntTy.all) (u u' : PtUnit) (hu : u.Pos) (hu' : u'.Pos)
    (ho : originRep.inRange u.oc) (ho' : originRep.inRange u'.oc)
    (hds : Divides u'.scale u.scale)
    (hdd : (originsEqual u' u).val ≠ .ok true → Divides u'.scale (dispUnit u' u))
    (v x : Int) (h : inImplicit r u u' v = ⟨.ok x, false, false⟩) :
    (x : Rat) * u'.scale.scale + originOf u' = position u v := by
  have hcp := promote_mem r hr
  have hcpc := common_mem _ _ hcp hr
  unfold inImplicit at h
  cases heq : (originsEqual u' u).val with
  | ub w => simp [heq, ubRes_ne_clean] at h
  | ok b =>
    cases b with
    | true =>
      obtain ⟨N, hrat, hN⟩ := ratio_of_divides u'.scale u.scale hu'.1 hu.1 hds
      simp only [heq, hrat, andThen_clean_iff, liftStep_clean_iff, addIn_clean_iff _ hcp, repCast_clean_iff _ _ hcpc hr,
        inUnit_clean_iff r hr, Int.add_zero] at h
      -- stages: `addIn … 0`; `rep_cast` back to the rep; `inUnit`
      obtain ⟨_, ⟨_, rfl⟩, _, ⟨_, _, rfl⟩, _, rfl⟩ := h
      rw [originsEqual_of_val u' u hu'.2 hu.2 ho' ho heq]
      exact affine_same hN
    | false =>
      cases hdv : (dispValue u' u).val with
      | ub w => simp [heq, hdv, ubRes_ne_clean] at h
      | ok dv =>
        obtain ⟨hCU, e1, e2, hdisp⟩ := disp_frame u.scale hu.1 u' u hu' hu ho' ho dv hdv
        obtain ⟨N, hrat, hN⟩ := ratio_of_divides u'.scale _ hu'.1 hCU (URat.dvd_common _ _ _ hds (hdd (by simp [heq])))
        simp only [heq, hdv, hrat, andThen_clean_iff, liftRes_clean_iff, repCast_clean_iff _ _ hcpc hr,
          repCast_clean_iff originRep _ (common_mem _ _ (by decide) hr) hr, inUnit_clean_iff r hr,
          add_clean_iff r r hr hr, common_self,
          castToCommon_clean_iff r r (common_mem r r hr hr) hr] at h
        -- stages: `rep_cast` of the displacement; the addition (two `castToCommon`, then `addIn`); `rep_cast` back to the
        -- rep; `inUnit`
        obtain ⟨_, ⟨_, _, rfl⟩, _, ⟨_, _, ⟨_, _, _, rfl⟩, ⟨_, _, _, rfl⟩, _, rfl⟩, _, ⟨_, _, rfl⟩, _, rfl⟩ := h
        exact (affine_same hN).trans (affine_add e1 e2 hdisp)

/-- Non-vacuity: 20 [1, 273150·(1/1000)] (int32) `.in` the unit [1/9000, origin 0]: 2638350 (= 293.15 · 9000). -/
example : inImplicit i32 ⟨⟨1, 1⟩, 273150, ⟨1, 1000⟩⟩ ⟨⟨1, 9000⟩, 0, ⟨1, 1000⟩⟩ 20 = ⟨.ok 2638350, false, false⟩ := by decide

/-- The origin of `commonPointUnit` ("cpu") is that of `commonOriginUnit`. -/
theorem cpu_oc (u1 u2 : PtUnit) : (commonPointUnit u1 u2).oc = (commonOriginUnit u1 u2).oc ∧
    (commonPointUnit u1 u2).ou = (commonOriginUnit u1 u2).ou := by
  unfold commonPointUnit
  exact ⟨rfl, rfl⟩

theorem commonPointUnit_step_spec (co : PtUnit) (hco : co.Pos) (s : URat) (hs : s.Pos) (u : PtUnit) (hu : u.Pos) :
    (commonPointUnit_step co s u).Pos ∧ Divides (commonPointUnit_step co s u) s ∧
    ((originsEqual co u).val ≠ .ok true → Divides (commonPointUnit_step co s u) (dispUnit co u)) := by
  have hd := dispUnit_pos co u hco.2 hu.2
  unfold commonPointUnit_step
  split
  · next h => exact ⟨hs, Divides.refl s, fun hne => absurd h hne⟩
  · exact ⟨gcdScale_pos _ _ hs hd, gcdScale_dvd_left _ _ hs hd, fun _ => gcdScale_dvd_right _ _ hs hd⟩

/-- `CommonPointUnit<U1, U2>`: its origin count fits `int`; its scale is positive and divides both scales and
the unit of every non-`ZERO` displacement from its origin. -/
theorem commonPointUnit_facts (u1 u2 : PtUnit) (h1 : u1.Pos) (h2 : u2.Pos) (r1 : originRep.inRange u1.oc) (r2 : originRep.inRange u2.oc) :
    let cu := commonPointUnit u1 u2
    cu.Pos ∧ originRep.inRange cu.oc ∧ Divides cu.scale u1.scale ∧ Divides cu.scale u2.scale ∧
    ((originsEqual cu u1).val ≠ .ok true → Divides cu.scale (dispUnit cu u1)) ∧
    ((originsEqual cu u2).val ≠ .ok true → Divides cu.scale (dispUnit cu u2)) := by
  intro cu
  have hco : (commonOriginUnit u1 u2).Pos ∧ originRep.inRange (commonOriginUnit u1 u2).oc := by
    rcases commonOriginUnit_cases u1 u2 with h | h <;> rw [h]
    · exact ⟨h1, r1⟩
    · exact ⟨h2, r2⟩
  -- two steps from the gcd `b` of the scales: to `A`, then to `S`
  have hsc : cu.scale = _ := commonPointUnit_scale u1 u2
  have hb := gcdScale_pos _ _ h1.1 h2.1
  obtain ⟨hA, dAb, ddA⟩ := commonPointUnit_step_spec _ hco.1 _ hb u1 h1
  obtain ⟨hS, dSA, ddS⟩ := commonPointUnit_step_spec _ hco.1 _ hA u2 h2
  have dSb := Divides.trans hA dSA dAb
  refine ⟨⟨hsc ▸ hS, hco.1.2⟩, hco.2, ?_, ?_, ?_, ?_⟩
  · rw [hsc]; exact Divides.trans hb dSb (gcdScale_dvd_left _ _ h1.1 h2.1)
  · rw [hsc]; exact Divides.trans hb dSb (gcdScale_dvd_right _ _ h1.1 h2.1)
  · rw [hsc]; exact fun hne => Divides.trans hA dSA (ddA hne)
  · rw [hsc]; exact ddS

/-- **C09, exactness of `using_common_point_unit`.**  Whenever `using_common_point_unit` delivers both operands
without the `wrapped` / `narrowed` flags (`hp` excludes undefined behaviour), the two counts are the exact absolute
positions, expressed in `CommonPointUnitT<U1, U2>`: these are the `hx`, `hy` of `C09_order` / `C09_diff` /
`C09_spaceship`.  No truncation hypothesis is needed. -/
theorem C09_common_pair_exact (r1 r2 : IntTy) (h1 : r1 ∈ IntTy.all) (h2 : r2 ∈ IntTy.all)
    (u1 u2 : PtUnit) (hu1 : u1.Pos) (hu2 : u2.Pos) (ho1 : originRep.inRange u1.oc) (ho2 : originRep.inRange u2.oc)
    (v1 v2 x y : Int)
    (hp : (commonPointPair r1 r2 u1 u2 v1 v2).val = .ok (x, y))
    (hclean : (commonPointPair r1 r2 u1 u2 v1 v2).wrapped = false ∧ (commonPointPair r1 r2 u1 u2 v1 v2).narrowed = false) :
    (x : Rat) * (commonPointUnit u1 u2).scale.scale + originOf (commonPointUnit u1 u2) = position u1 v1 ∧
    (y : Rat) * (commonPointUnit u1 u2).scale.scale + originOf (commonPointUnit u1 u2) = position u2 v2 := by
  have hc := common_mem r1 r2 h1 h2
  obtain ⟨hcuP, hcuR, d1, d2, dd1, dd2⟩ := commonPointUnit_facts u1 u2 hu1 hu2 ho1 ho2
  unfold commonPointPair at hp hclean
  dsimp only at hp hclean
  -- both operands returned a value without flags, hence cleanly
  rcases ha : (andThen (repCastPoint r1 (IntTy.common r1 r2) u1 v1) fun x =>
      inImplicit (IntTy.common r1 r2) u1 (commonPointUnit u1 u2) x) with ⟨x' | w, aw, an⟩ <;>
  rcases hb : (andThen (repCastPoint r2 (IntTy.common r1 r2) u2 v2) fun x =>
      inImplicit (IntTy.common r1 r2) u2 (commonPointUnit u1 u2) x) with ⟨y' | w', bw, bn⟩ <;>
  simp only [ha, hb, reduceCtorEq, Eval.ok.injEq, Prod.mk.injEq, Bool.or_eq_false_iff] at hp hclean
  obtain ⟨⟨rfl, rfl⟩, ⟨rfl, rfl⟩, rfl, rfl⟩ := And.intro hp hclean
  obtain ⟨z1, hz1, hi1⟩ := (andThen_clean_iff _ _ _).1 ha
  obtain ⟨z2, hz2, hi2⟩ := (andThen_clean_iff _ _ _).1 hb
  obtain rfl := repCastPoint_of_clean r1 _ h1 hc u1 hu1 ho1 v1 z1 hz1
  obtain rfl := repCastPoint_of_clean r2 _ h2 hc u2 hu2 ho2 v2 z2 hz2
  exact ⟨C09_in_exact _ hc u1 _ hu1 hcuP ho1 hcuR d1 dd1 _ _ hi1,
    C09_in_exact _ hc u2 _ hu2 hcuP ho2 hcuR d2 dd2 _ _ hi2⟩

theorem commonPointUnit_scale_pos (u1 u2 : PtUnit) (hu1 : u1.Pos) (hu2 : u2.Pos) : 0 < (commonPointUnit u1 u2).scale.scale := by
  have hco : (commonOriginUnit u1 u2).Pos := by rcases commonOriginUnit_cases u1 u2 with h | h <;> rw [h] <;> assumption
  obtain ⟨hA, -⟩ := commonPointUnit_step_spec _ hco _ (gcdScale_pos _ _ hu1.1 hu2.1) u1 hu1
  obtain ⟨hS, -⟩ := commonPointUnit_step_spec _ hco _ hA u2 hu2
  rw [commonPointUnit_scale]
  exact URat.scale_pos _ hS

/-- **C09, ordering (end to end).**  Whenever `using_common_point_unit` is clean, each of the six comparisons of two
points is the corresponding comparison of their absolute positions — regardless of the units involved. -/
theorem C09_order_full (r1 r2 : IntTy) (h1 : r1 ∈ IntTy.all) (h2 : r2 ∈ IntTy.all)
    (u1 u2 : PtUnit) (hu1 : u1.Pos) (hu2 : u2.Pos) (ho1 : originRep.inRange u1.oc) (ho2 : originRep.inRange u2.oc)
    (v1 v2 x y : Int)
    (hp : (commonPointPair r1 r2 u1 u2 v1 v2).val = .ok (x, y))
    (hclean : (commonPointPair r1 r2 u1 u2 v1 v2).wrapped = false ∧ (commonPointPair r1 r2 u1 u2 v1 v2).narrowed = false)
    (op : CmpOp) :
    ∃ b : Bool, (cmpPoints op r1 r2 u1 u2 v1 v2).val = .ok b ∧
      (b = true ↔ op.rel (position u1 v1) (position u2 v2)) := by
  obtain ⟨hx, hy⟩ := C09_common_pair_exact r1 r2 h1 h2 u1 u2 hu1 hu2 ho1 ho2 v1 v2 x y hp hclean
  exact C09_order r1 r2 u1 u2 v1 v2 x y _ _ (commonPointUnit_scale_pos u1 u2 hu1 hu2) hp hx hy op

/-- **C09, point − point (end to end).** -/
theorem C09_diff_full (r1 r2 : IntTy) (h1 : r1 ∈ IntTy.all) (h2 : r2 ∈ IntTy.all) (hs : r1.signed = r2.signed)
    (u1 u2 : PtUnit) (hu1 : u1.Pos) (hu2 : u2.Pos) (ho1 : originRep.inRange u1.oc) (ho2 : originRep.inRange u2.oc)
    (v1 v2 x y : Int)
    (hp : (commonPointPair r1 r2 u1 u2 v1 v2).val = .ok (x, y))
    (hclean : (commonPointPair r1 r2 u1 u2 v1 v2).wrapped = false ∧ (commonPointPair r1 r2 u1 u2 v1 v2).narrowed = false)
    (hfit : (IntTy.common r1 r2).inRange (x - y)) :
    (subPoints r1 r2 u1 u2 v1 v2).val = .ok (x - y) ∧
      ((x - y : Int) : Rat) * (commonPointUnit u1 u2).scale.scale = position u1 v1 - position u2 v2 := by
  obtain ⟨hx, hy⟩ := C09_common_pair_exact r1 r2 h1 h2 u1 u2 hu1 hu2 ho1 ho2 v1 v2 x y hp hclean
  exact C09_diff r1 r2 h1 h2 hs u1 u2 v1 v2 x y _ _ hp hx hy hfit

set_option linter.unusedVariables false in -- `hs`: `C09_spaceship` does not need it
/-- **C09, `<=>` on points (end to end).** -/
theorem C09_spaceship_full (r1 r2 : IntTy) (h1 : r1 ∈ IntTy.all) (h2 : r2 ∈ IntTy.all) (hs : r1.signed = r2.signed)
    (u1 u2 : PtUnit) (hu1 : u1.Pos) (hu2 : u2.Pos) (ho1 : originRep.inRange u1.oc) (ho2 : originRep.inRange u2.oc)
    (v1 v2 x y : Int)
    (hp : (commonPointPair r1 r2 u1 u2 v1 v2).val = .ok (x, y))
    (hclean : (commonPointPair r1 r2 u1 u2 v1 v2).wrapped = false ∧ (commonPointPair r1 r2 u1 u2 v1 v2).narrowed = false)
    (hxr : (IntTy.common r1 r2).inRange x) (hyr : (IntTy.common r1 r2).inRange y) :
    (spaceshipPoints r1 r2 u1 u2 v1 v2).val = .ok (compare x y) ∧
    (compare x y = .lt ↔ position u1 v1 < position u2 v2) ∧
    (compare x y = .eq ↔ position u1 v1 = position u2 v2) ∧
    (compare x y = .gt ↔ position u2 v2 < position u1 v1) ∧
    ∀ op, (cmpPoints op r1 r2 u1 u2 v1 v2).val = .ok (op.ofOrdering (compare x y)) := by
  obtain ⟨hx, hy⟩ := C09_common_pair_exact r1 r2 h1 h2 u1 u2 hu1 hu2 ho1 ho2 v1 v2 x y hp hclean
  exact C09_spaceship r1 r2 h1 h2 u1 u2 v1 v2 x y _ _ (commonPointUnit_scale_pos u1 u2 hu1 hu2) hp hx hy hxr hyr

/-- Non-vacuity of the hypotheses of the four theorems above (20 °C-like and 68 °F-like, both int32). -/
example : commonPointPair i32 i32 ⟨⟨1, 1⟩, 273150, ⟨1, 1000⟩⟩ ⟨⟨5, 9⟩, 459670, ⟨1, 1800⟩⟩ 20 68 = ⟨.ok (340000, 340000), false, false⟩ ∧
    originRep.inRange 273150 ∧ originRep.inRange 459670 := by
  decide

/-- … and a strict case with different reps: 21 °C-like (int16) vs 68 °F-like (int64): `<` is false, `>` is true. -/
example : commonPointPair i16 i64 ⟨⟨1, 1⟩, 273150, ⟨1, 1000⟩⟩ ⟨⟨5, 9⟩, 459670, ⟨1, 1800⟩⟩ 21 68 = ⟨.ok (349000, 340000), false, false⟩ ∧
    (cmpPoints .gt i16 i64 ⟨⟨1, 1⟩, 273150, ⟨1, 1000⟩⟩ ⟨⟨5, 9⟩, 459670, ⟨1, 1800⟩⟩ 21 68).val = .ok true ∧
    (subPoints i16 i64 ⟨⟨1, 1⟩, 273150, ⟨1, 1000⟩⟩ ⟨⟨5, 9⟩, 459670, ⟨1, 1800⟩⟩ 21 68).val = .ok 9000 ∧
    (spaceshipPoints i16 i64 ⟨⟨1, 1⟩, 273150, ⟨1, 1000⟩⟩ ⟨⟨5, 9⟩, 459670, ⟨1, 1800⟩⟩ 21 68).val = .ok .gt := by
  decide

/-- The unit of `p ± q` has the point unit's origin and the common (gcd) scale of the two units. -/
theorem shiftResultUnit_spec (uP : PtUnit) (hP : uP.Pos) (sq : URat) (ho : originRep.inRange uP.oc) :
    (shiftResultUnit uP sq).scale = gcdScale uP.scale sq ∧ (shiftResultUnit uP sq).oc = uP.oc ∧ (shiftResultUnit uP sq).ou = uP.ou := by
  have hco : (commonOriginUnit uP (borrowOrigin uP sq)).oc = uP.oc ∧ (commonOriginUnit uP (borrowOrigin uP sq)).ou = uP.ou := by
    rcases commonOriginUnit_cases uP (borrowOrigin uP sq) with h | h <;> rw [h] <;> exact ⟨rfl, rfl⟩
  -- both steps see a `ZERO` displacement: `borrowOrigin uP sq` has the origin of `uP`
  have e1 : (originsEqual (commonOriginUnit uP (borrowOrigin uP sq)) uP).val = .ok true :=
    originsEqual_same _ _ (hco.2.symm ▸ hP.2) hco.1.symm hco.2.symm (hco.1.symm ▸ ho)
  have e2 : (originsEqual (commonOriginUnit uP (borrowOrigin uP sq)) (borrowOrigin uP sq)).val = .ok true := e1
  refine ⟨?_, hco.1, hco.2⟩
  unfold shiftResultUnit
  rw [commonPointUnit_scale]
  simp only [commonPointUnit_step, e1, e2]
  rfl

/-- Signed contribution of the quantity in each of the three operators. -/
def Point.ShiftOp.sign : ShiftOp → Int
  | .pPlusQ => 1 | .qPlusP => 1 | .pMinusQ => -1

/-- **C09, point ± quantity.**  For `p + q`, `q + p` and `p − q` (integral reps, point unit with an `int` origin,
quantity of scale `sq`): whenever the result is clean (no undefined behaviour, wrap-around or narrowing), it is the
point shifted by exactly the quantity:
`z · unit(result) + origin(result) = position(p) ± vq · sq`, where the result unit has the point unit's origin and the
common (gcd) scale of the point's and the quantity's unit (`shiftResultUnit_spec`). -/
theorem C09_point_shift_exact (op : ShiftOp) (rp rq : IntTy) (hp : rp ∈ IntTy.all) (hq : rq ∈ IntTy.all)
    (uP : PtUnit) (hP : uP.Pos) (ho : originRep.inRange uP.oc) (sq : URat) (hsq : sq.Pos) (vp vq z : Int)
    (h : pointShift op rp rq uP sq vp vq = ⟨.ok z, false, false⟩) :
    (z : Rat) * (shiftResultUnit uP sq).scale.scale + originOf (shiftResultUnit uP sq) =
      position uP vp + (op.sign : Rat) * ((vq : Rat) * sq.scale) ∧
    originOf (shiftResultUnit uP sq) = originOf uP := by
  have hR := common_mem rp rq hp hq
  have hRp := promote_mem _ hR
  have hRpR := common_mem _ _ hRp hR
  have hRR := common_mem _ _ hR hR
  have hqq := common_mem rq rq hq hq
  obtain ⟨hcuP, hcuR, d1, d2, dd1, _⟩ := commonPointUnit_facts uP (borrowOrigin uP sq) hP ⟨hsq, hP.2⟩ ho ho
  have horg : originOf (shiftResultUnit uP sq) = originOf uP := by
    obtain ⟨_, e1, e2⟩ := shiftResultUnit_spec uP hP sq ho
    unfold originOf; rw [e1, e2]
  refine ⟨?_, horg⟩
  obtain ⟨N, hrat, hN⟩ := ratio_of_divides (shiftResultUnit uP sq).scale sq hcuP.1 hsq d2
  unfold pointShift at h
  simp only [hrat, andThen_clean_iff, asRep_clean_iff rq rq hqq hq, repCast_clean_iff rq _ (common_mem _ _ hq hR) hR,
    asRep_clean_iff _ _ hRR hR, repCast_clean_iff _ _ hRpR hR, liftStep_clean_iff] at h
  -- stages: the point (`repCastPoint`, then `inImplicit`); the quantity (`asRep` in its own rep with ratio 1, `rep_cast`,
  -- `asRep` with ratio `N`: `d = vq·1·N`); the step `s` in the promoted rep; `rep_cast` back
  obtain ⟨x, ⟨x0, hx0, hx1⟩, d, ⟨_, ⟨_, _, _, rfl⟩, _, ⟨_, _, rfl⟩, _, _, _, rfl⟩, s, hs, _, _, hz⟩ := h
  obtain rfl := repCastPoint_of_clean rp _ hp hR uP hP ho vp x0 hx0
  have hpos := C09_in_exact _ hR uP (shiftResultUnit uP sq) hP hcuP ho hcuR d1 dd1 _ x hx1
  have es : s = x + op.sign * (vq * (1 : Nat) * N) := by
    cases op <;> simp only [addIn_clean_iff _ hRp, subIn_clean_iff _ hRp] at hs <;> simp only [ShiftOp.sign, hs.2] <;> omega
  rw [hz, es, ← hpos, Rat.intCast_add, Rat.intCast_mul, Rat.intCast_mul, Rat.intCast_mul, Rat.intCast_natCast]
  simp only [Rat.intCast_natCast]
  -- (x + sign·(vq·1·N))·cu + o = (x·cu + o) + sign·(vq·sq): `hN` is N·cu = sq
  grind

/-- **C09, `p + q` and `q + p`.** -/
theorem C09_point_plus_quantity (rp rq : IntTy) (hp : rp ∈ IntTy.all) (hq : rq ∈ IntTy.all)
    (uP : PtUnit) (hP : uP.Pos) (ho : originRep.inRange uP.oc) (sq : URat) (hsq : sq.Pos) (vp vq z : Int)
    (h : pointShift .pPlusQ rp rq uP sq vp vq = ⟨.ok z, false, false⟩ ∨ pointShift .qPlusP rp rq uP sq vp vq = ⟨.ok z, false, false⟩) :
    (z : Rat) * (shiftResultUnit uP sq).scale.scale + originOf (shiftResultUnit uP sq) = position uP vp + (vq : Rat) * sq.scale := by
  rcases h with h | h
  · have := (C09_point_shift_exact .pPlusQ rp rq hp hq uP hP ho sq hsq vp vq z h).1
    simp only [ShiftOp.sign] at this
    rw [this, Rat.intCast_one, Rat.one_mul]
  · have := (C09_point_shift_exact .qPlusP rp rq hp hq uP hP ho sq hsq vp vq z h).1
    simp only [ShiftOp.sign] at this
    rw [this, Rat.intCast_one, Rat.one_mul]

/-- **C09, `p − q`.** -/
theorem C09_point_minus_quantity (rp rq : IntTy) (hp : rp ∈ IntTy.all) (hq : rq ∈ IntTy.all)
    (uP : PtUnit) (hP : uP.Pos) (ho : originRep.inRange uP.oc) (sq : URat) (hsq : sq.Pos) (vp vq z : Int)
    (h : pointShift .pMinusQ rp rq uP sq vp vq = ⟨.ok z, false, false⟩) :
    (z : Rat) * (shiftResultUnit uP sq).scale.scale + originOf (shiftResultUnit uP sq) = position uP vp - (vq : Rat) * sq.scale := by
  have := (C09_point_shift_exact .pMinusQ rp rq hp hq uP hP ho sq hsq vp vq z h).1
  simp only [ShiftOp.sign] at this
  rw [this, Rat.intCast_neg, Rat.intCast_one, Rat.neg_mul, Rat.one_mul, Rat.sub_eq_add_neg]

/-- Non-vacuity: 20 [1, 273150·(1/1000)] (int32) + 5 [1] = 25; 20 °C-like − 9 [5/9] (int64) = 135 ninths;
6 [1] (uint32) + 22594556 [1/1000, origin 0] (uint32) = 22600556 thousandths. -/
example : pointShift .pPlusQ i32 i32 ⟨⟨1, 1⟩, 273150, ⟨1, 1000⟩⟩ ⟨1, 1⟩ 20 5 = ⟨.ok 25, false, false⟩ ∧
    pointShift .pMinusQ i32 i64 ⟨⟨1, 1⟩, 273150, ⟨1, 1000⟩⟩ ⟨5, 9⟩ 20 9 = ⟨.ok 135, false, false⟩ ∧
    pointShift .qPlusP u32 u32 ⟨⟨1, 1000⟩, 0, ⟨1, 1000⟩⟩ ⟨1, 1⟩ 22594556 6 = ⟨.ok 22600556, false, false⟩ := by
  decide

end Au
